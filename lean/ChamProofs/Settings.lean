import ChamProofs.Inv
/-! # The i18n settings (domain, context, target language) are scoped to their element

`Neutral m`: when `m` completes normally, every function frame has the i18n settings it had before — elements
put back what they change.  The only construct that can break this is `tal:on-error` (finding D-10a: the restoring
assignments are skipped when the guarded element raises), so the theorem is stated for the nodes of a function body
that contain no `tal:on-error`; macro calls and slot fillers restore the caller's frames unconditionally. -/
namespace ChamVerif.I18n
open ChamVerif StepRel

structure Neutral {α} (m : RM α) : Prop where
  at_ : ∀ s, s.env.frames ≠ [] → ∀ a s', m s = .ok a s' → settings s' = settings s

/-- no `tal:on-error` at this function level (macro bodies and slot fillers run in frames of their own); on fuel, as the model's
own traversals `definedSlots` and `namesOf` are; it follows `Node.kids` clause by clause (`H_kids`) -/
def noOE : Nat → Node → Bool
  | 0, _ => true
  | f+1, n =>
    match n with
    | .seq ns => ns.all (noOE f)
    | .element st en ct => noOE f st && noOE f ct && (match en with | some e => noOE f e | none => true)
    | .start _ _ _ attrs => noOE f attrs
    | .condition _ node orelse => noOE f node && (match orelse with | some o => noOE f o | none => true)
    | .cache _ node | .cancel _ node | .define _ node | .repeat_ _ _ _ _ _ node | .translate _ _ node | .name _ node
    | .domain _ node | .txContext _ node | .target _ node | .defineSlot _ node => noOE f node
    | .onError _ _ _ => false
    | _ => true

def H (n : Node) : Prop := ∀ g, noOE g n = true

theorem H_kids (n : Node) (h : H n) : ∀ c ∈ n.kids, H c := by
  intro c hc g
  have hg := h (g + 1)
  cases n <;> simp only [Node.kids, List.mem_cons, List.not_mem_nil, or_false] at hc <;>
    simp only [noOE, Bool.and_eq_true, List.all_eq_true, Bool.false_eq_true] at hg
  case seq => exact hg c hc
  case element st en ct =>
    rcases hc with rfl | rfl | hc
    · exact hg.1.1
    · exact hg.1.2
    · cases en <;> simp at hc; subst hc; exact hg.2
  case condition cnd nd o =>
    rcases hc with rfl | hc
    · exact hg.1
    · cases o <;> simp at hc; subst hc; exact hg.2
  all_goals subst hc; exact hg

/-- normal completion leaves the settings of every activation as they were (given there is an activation); nothing is
claimed for a computation that raises -/
def rel : StepRel where
  R s s' := s.env.frames ≠ [] → settings s' = settings s
  E _ _ := True
  refl _ _ := rfl
  reflE _ := trivial
  trans {s₁ s₂ _} h₁ h₂ hs :=
    have h := h₁ hs
    (h₂ (fun h0 => hs (by simpa [settings, h0] using h.symm))).trans h
  transE _ _ := trivial

theorem neutral_iff {α} {m : RM α} : Neutral m ↔ rel.Tri m :=
  ⟨fun h => ⟨fun s => ⟨fun a s' hm hs => h.at_ s hs a s' hm, fun _ _ _ => trivial⟩⟩,
   fun h => ⟨fun s hs a s' hm => (h.at_ s).1 a s' hm hs⟩⟩

theorem setting {β} (setF restoreF : Frame → Frame) (body : RM Unit) (k : RM β) (s0 : RState)
    (hprop : Restores setF restoreF s0)
    (hb : rel.Tri body) (hk : rel.Tri k) :
    rel.At (modFrame setF >>= fun _ => body >>= fun _ => modFrame restoreF >>= fun _ => k) s0 := by
  -- the body keeps the list of settings, so the head frame still has the settings `setF` left; `Restores` then gives
  -- those of the frame the element began with, and the tail was never touched
  refine ⟨fun b s' h hs => ?_, fun _ _ _ => trivial⟩
  cases hf : s0.env.frames with
  | nil => exact absurd hf hs
  | cons fr frs =>
    simp only [bind, modFrame_ok setF s0 fr frs hf] at h
    cases hr : body { s0 with env := { s0.env with frames := setF fr :: frs } } with
    | raised e s1 => simp [hr] at h
    | unsupported w => simp [hr] at h
    | ok u s2 =>
      simp only [hr] at h
      have h2 := (hb.at_ _).1 u s2 hr (by simp)
      simp only [settings, List.map_cons] at h2
      cases hf2 : s2.env.frames with
      | nil => rw [hf2] at h2; simp at h2
      | cons fr2 frs2 =>
        rw [hf2] at h2
        simp only [List.map_cons, List.cons.injEq] at h2
        simp only [modFrame_ok restoreF s2 fr2 frs2 hf2] at h
        have h3 := (hk.at_ _).1 b s' h (by simp)
        rw [h3]
        simp only [settings, List.map_cons, hf]
        rw [hprop fr fr2 (by rw [hf]; rfl) h2.1, h2.2]

/-- callees run in frames of their own; an element guarded by `tal:on-error` is excluded -/
def inv (cfg : ECfg) : EvalInv cfg where
  toStepRel := rel
  H := H
  kids := H_kids
  quiet h := ⟨h.2.2, trivial⟩
  emit := (Tri.streams (fun _ _ _ => rfl)).1
  bracket := Tri.bracket_of (fun _ _ _ => rfl)
  setting := setting
  macroCall _ _ m _ := Tri.callee m _ _ _ (fun _ _ _ _ => rfl) (fun _ _ _ _ => trivial)
  fillerCall _ m _ := Tri.callee m _ _ _ (fun _ _ _ _ => rfl) (fun _ _ _ _ => trivial)
  handler _ _ _ hH := absurd (hH 1) (by simp [noOE])

theorem neutral_all (cfg : ECfg) : ∀ f,
    (∀ al node, H node → Neutral (eval cfg al f node)) ∧
    (∀ al ns, (∀ n ∈ ns, H n) → Neutral (evalList cfg al f ns)) ∧
    (∀ al as node bk, H node → Neutral (evalDefine cfg al f as node bk)) ∧
    (∀ al key names loc ws node items rem, H node → Neutral (evalRepeat cfg al f key names loc ws node items rem)) := by
  intro f
  obtain ⟨hE, hL, hD, hR⟩ := (inv cfg).all f
  exact ⟨fun al n h => neutral_iff.2 (hE al n h), fun al ns h => neutral_iff.2 (hL al ns h),
    fun al as n bk h => neutral_iff.2 (hD al as n bk h),
    fun al key names loc ws n items rem h => neutral_iff.2 (hR al key names loc ws n items rem h)⟩

end ChamVerif.I18n
