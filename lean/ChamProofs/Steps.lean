import ChamProofs.RunLemmas
/-! # The name-binding steps of the evaluator, with the recursive calls as parameters

`evalRepeat`, `evalDefine` and the `tal:repeat` node — and their counterparts `Spec.loopOf`, `Spec.definesOf`,
`Spec.repeatOf` — are instances of `iteration`, `assignment`, `repetition` (by unfolding: the steps are written as the
evaluator writes them); what is proved of a step (it is monotone: `Fuel`; it respects an invariant: `Inv`) holds of all of
them.  The compiled `do` blocks carry a copy of the rest in every `match` arm; `iteration_eq`, `assignment_eq` and
`repetition_eq` give the steps as plain `>>=` chains (around `bindNames`, resp. with the items bound before the rest).
`callee` is the fourth shape the evaluator and the specification share: a macro function or slot filler entered, run and
left. -/
namespace ChamVerif

/-- a callee (macro function, slot filler): `enter`, run `m`, `leaveOk` / `leaveErr` -/
def callee (m : RM Unit) (enter : RState → RState) (leaveOk leaveErr : RState → RState → RState) : RM Unit := fun s =>
  match m (enter s) with
  | .ok () s' => .ok () (leaveOk s s')
  | .raised ex s' => .raised ex (leaveErr s s')
  | .unsupported w => .unsupported w

/-- what `metal:define-slot` does in a state: the default content (no filler, or the slot is marked unfilled), nothing
modelled (a dangling closure id), or the filler as a callee -/
theorem slotOf_cases (cfg : ECfg) (nm : Tok) (s : RState) :
    (∀ F k, Spec.slotOf cfg F (some nm) k s = k s) ∨
    (∀ F k, Spec.slotOf cfg F (some nm) k s = .unsupported "unknown slot closure") ∨
    ∃ cl, ∀ F k, Spec.slotOf cfg F (some nm) k s =
      callee (eval cfg cl.al F cl.node) (fillerEnter cl) fillerLeave fillerRaise s := by
  cases hl : lookupAssoc s.env.topFrame.slotFns (mangleName nm.str) with
  | none => exact .inl fun F k => slotOf_default cfg F nm k s (.inl hl)
  | some o =>
    cases o with
    | none => exact .inl fun F k => slotOf_default cfg F nm k s (.inr hl)
    | some cid =>
      cases hc : s.closures[cid]? with
      | none => exact .inr (.inl fun F k => slotOf_unknown cfg F nm k s hl hc)
      | some cl => exact .inr (.inr ⟨cl, fun F k => slotOf_filled cfg F nm k s hl hc⟩)

/-- one iteration of `tal:repeat`: `body` renders the element, `next` does the remaining iterations -/
def iteration (key : Str) (names : List Tok) (local_ : Bool) (ws : Str) (item : Val) (remaining : Nat) (body next : RM Unit) :
    RM Unit := do
  modEnv (fun e => { e with repeats := e.repeats.map (fun (k, r) => if r.tag == key then (k, { r with consumed := r.consumed + 1 }) else (k, r)) })
  match names with
  | [nm] => do
    setVar nm.str item
    if !local_ then setGlobal nm.str item else pure ()
  | _ => do
    let vs ← match item with
      | .list vs | .tuple vs => pure vs
      | .none | .bool _ | .int _ => mRaise { cls := "TypeError", msg := [] }
      | _ => mUnsupported "unpacking of this class"
    if vs.length != names.length then mRaise { cls := "ValueError", msg := [] }
    else do
      (names.zip vs).forM (fun (nm, x) => setVar nm.str x)
      if !local_ then (names.zip vs).forM (fun (nm, x) => setGlobal nm.str x) else pure ()
  body
  if remaining - 1 > 0 then emit ws else pure ()
  next

/-- one `tal:define` clause: `next` gets the backups of the names it binds -/
def assignment (cfg : ECfg) (al : List (Str × Val)) (names : List Tok) (e : EN) (local_ : Bool)
    (next : List (Str × Option Val) → RM Unit) : RM Unit := do
  let s0 ← mGet
  let bk : List (Str × Option Val) := if local_ then names.map (fun nm => (nm.str, s0.env.get nm.str)) else []
  let v ← enVal cfg al e
  match names with
  | [nm] => do
    setVar nm.str v
    if !local_ then setGlobal nm.str v else pure ()
  | _ => do
    let vs ← match v with
      | .list vs | .tuple vs => pure vs
      | .none | .bool _ | .int _ => mRaise { cls := "TypeError", msg := [] }
      | _ => mUnsupported "unpacking of this class"
    if vs.length != names.length then
      mRaise { cls := "ValueError", msg := [] }
    else do
      (names.zip vs).forM (fun (nm, x) => setVar nm.str x)
      if !local_ then (names.zip vs).forM (fun (nm, x) => setGlobal nm.str x) else pure ()
  next bk

/-- the `tal:repeat` node: `loop tag items` runs the iterations -/
def repetition (cfg : ECfg) (al : List (Str × Val)) (names : List Tok) (e : EN) (local_ : Bool)
    (loop : Str → List Val → RM Unit) : RM Unit := do
  let s0 ← mGet
  let backups : List (Str × Option Val) := if local_ then names.map (fun nm => (nm.str, s0.env.get nm.str)) else []
  let it ← enVal cfg al e
  (match s0.env.get (lit "repeat") with
    | some .repeatDict => pure ()
    | _ => mUnsupported "`repeat` rebound by the template (D-05e)")
  let items : List Val ← match it with
    | .list vs | .tuple vs => pure vs
    | .none => pure []
    | .str s => pure (s.map (fun ch => Val.str [ch]))
    | .dict kvs => pure (kvs.map (·.1))
    | _ => mUnsupported "iterable class"
  let key : Str := match names with
    | [nm] => nm.str
    | _ => (names.map (fun nm => nm.str ++ [44])).flatten
  let s1 ← mGet
  let tag : Str := key ++ [0] ++ natToStr (s1.loops + 1)
  mModify (fun s => { s with loops := s.loops + 1 })
  modEnv (fun e => { e with repeats := (key, { length := items.length, consumed := 0, tag := tag }) :: e.repeats.filter (·.1 != key) })
  names.forM (fun nm => setVar nm.str .none)
  loop tag items
  if local_ then restore backups else pure ()

/-! The instances, by unfolding. -/

theorem evalRepeat_cons (cfg : ECfg) (al : List (Str × Val)) (f : Nat) (key : Str) (names : List Tok) (loc : Bool) (ws : Str)
    (n : Node) (item : Val) (rest : List Val) (rem : Nat) :
    evalRepeat cfg al (f + 1) key names loc ws n (item :: rest) rem =
      iteration key names loc ws item rem (eval cfg al f n) (evalRepeat cfg al f key names loc ws n rest (rem - 1)) :=
  rfl

theorem evalDefine_assign (cfg : ECfg) (al : List (Str × Val)) (f : Nat) (names : List Tok) (e : EN) (loc : Bool)
    (rest : List Assign) (n : Node) (bk : List (Str × Option Val)) :
    evalDefine cfg al (f + 1) (.assign names e loc :: rest) n bk =
      assignment cfg al names e loc (fun bk' => evalDefine cfg al f rest n (bk' ++ bk)) :=
  rfl

theorem eval_repeat (cfg : ECfg) (al : List (Str × Val)) (f id : Nat) (names : List Tok) (e : EN) (loc : Bool) (ws : Str) (n : Node) :
    eval cfg al (f + 1) (.repeat_ id names e loc ws n) =
      repetition cfg al names e loc (fun tag items => evalRepeat cfg al f tag names loc ws n items items.length) :=
  rfl

open Spec in
theorem loopOf_cons (key : Str) (names : List Tok) (loc : Bool) (ws : Str) (k : RM Unit) (item : Val) (rest : List Val)
    (rem : Nat) :
    loopOf key names loc ws k (item :: rest) rem =
      iteration key names loc ws item rem k (loopOf key names loc ws k rest (rem - 1)) :=
  rfl

open Spec in
theorem definesOf_assign (cfg : ECfg) (names : List Tok) (e : EN) (loc : Bool) (rest : List Assign) (al : List (Str × Val))
    (bk : List (Str × Option Val)) (k : List (Str × Val) → RM Unit) :
    definesOf cfg (.assign names e loc :: rest) al bk k =
      assignment cfg al names e loc (fun bk' => definesOf cfg rest al (bk' ++ bk) k) :=
  rfl

open Spec in
theorem repeatOf_some (cfg : ECfg) (al : List (Str × Val)) (rid : Nat) (d : DefineSpec) (ws : Str) (k : RM Unit) :
    repeatOf cfg al (some (rid, d, ws)) k = repetition cfg al d.names (.value d.expr) (d.ctx == .local_)
      (fun tag items => loopOf tag d.names (d.ctx == .local_) ws k items items.length) :=
  rfl

/-- bind the loop variable(s) / the defined name(s) to `v`: one name, or a tuple unpacked from a sequence -/
def bindNames (names : List Tok) (local_ : Bool) (v : Val) : RM Unit :=
  match names with
  | [nm] => do
    setVar nm.str v
    if !local_ then setGlobal nm.str v else pure ()
  | _ => do
    let vs ← match v with
      | .list vs | .tuple vs => pure vs
      | .none | .bool _ | .int _ => mRaise { cls := "TypeError", msg := [] }
      | _ => mUnsupported "unpacking of this class"
    if vs.length != names.length then mRaise { cls := "ValueError", msg := [] }
    else do
      (names.zip vs).forM (fun (nm, x) => setVar nm.str x)
      if !local_ then (names.zip vs).forM (fun (nm, x) => setGlobal nm.str x) else pure ()

theorem iteration_eq (key : Str) (names : List Tok) (loc : Bool) (ws : Str) (item : Val) (rem : Nat) (b c : RM Unit) :
    iteration key names loc ws item rem b c =
      (modEnv (fun e => { e with repeats := e.repeats.map (fun (k, r) => if r.tag == key then (k, { r with consumed := r.consumed + 1 }) else (k, r)) }) >>= fun _ =>
       bindNames names loc item >>= fun _ => b >>= fun _ => (if rem - 1 > 0 then emit ws else pure ()) >>= fun _ => c) := by
  simp only [iteration, bindNames]
  congr 1; funext _
  split
  · simp only [bind_assoc, rm_ite_bind, pure_bind]
  · split <;> simp only [bind_assoc, rm_ite_bind, pure_bind]

theorem assignment_eq (cfg : ECfg) (al : List (Str × Val)) (names : List Tok) (e : EN) (loc : Bool)
    (next : List (Str × Option Val) → RM Unit) :
    assignment cfg al names e loc next =
      (mGet >>= fun s0 => enVal cfg al e >>= fun v => bindNames names loc v >>= fun _ =>
        next (if loc then names.map (fun nm => (nm.str, s0.env.get nm.str)) else [])) := by
  simp only [assignment, bindNames]
  congr 1; funext s0; congr 1; funext v
  split
  · simp only [bind_assoc, rm_ite_bind, pure_bind]
  · split <;> simp only [bind_assoc, rm_ite_bind, pure_bind]

theorem repetition_eq (cfg : ECfg) (al : List (Str × Val)) (names : List Tok) (e : EN) (loc : Bool)
    (loop : Str → List Val → RM Unit) :
    repetition cfg al names e loc loop =
      (mGet >>= fun s0 => enVal cfg al e >>= fun it =>
        (match s0.env.get (lit "repeat") with
          | some .repeatDict => pure ()
          | _ => mUnsupported "`repeat` rebound by the template (D-05e)") >>= fun _ =>
        (match it with
          | .list vs | .tuple vs => pure vs
          | .none => pure []
          | .str s => pure (s.map (fun ch => Val.str [ch]))
          | .dict kvs => pure (kvs.map (·.1))
          | _ => mUnsupported "iterable class" : RM (List Val)) >>= fun items =>
        mGet >>= fun s1 =>
        let key : Str := match names with
          | [nm] => nm.str
          | _ => (names.map (fun nm => nm.str ++ [44])).flatten
        let tag : Str := key ++ [0] ++ natToStr (s1.loops + 1)
        mModify (fun s => { s with loops := s.loops + 1 }) >>= fun _ =>
        modEnv (fun e => { e with repeats := (key, { length := items.length, consumed := 0, tag := tag }) :: e.repeats.filter (·.1 != key) }) >>= fun _ =>
        names.forM (fun nm => setVar nm.str .none) >>= fun _ =>
        loop tag items >>= fun _ =>
        if loc then restore (if loc then names.map (fun nm => (nm.str, s0.env.get nm.str)) else []) else pure ()) := by
  simp only [repetition]
  congr 1; funext s0; congr 1; funext it; congr 1; funext _
  split <;> simp only [pure_bind] <;> rfl

end ChamVerif
