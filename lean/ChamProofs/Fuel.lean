import ChamProofs.Steps
/-! # The fuel of the interpreter is only a termination device

`eval`, `evalList`, `evalDefine`, `evalRepeat` are structurally recursive on a fuel argument; with too little of it they
answer `unsupported "out of fuel"`.  `fuel_mono`: whenever an evaluation gives a verdict (normal completion or an
exception) with fuel `f`, it gives the same verdict — the same final state, output and logs — with any larger fuel.
So every theorem stated for "fuel `f + k`" is a statement about the one rendering of the node. -/
namespace ChamVerif.Fuel
open ChamVerif

/-- `m'` agrees with `m` wherever `m` gives a verdict (does not answer `unsupported`); a structure, so that `intro` in the
search below does not open it -/
structure Le {α} (m m' : RM α) : Prop where
  at_ : ∀ s, (∀ w, m s ≠ .unsupported w) → m' s = m s

theorem le_refl {α} (m : RM α) : Le m m := ⟨fun _ _ => rfl⟩

theorem Le.ok {α} {m m' : RM α} {s s' : RState} {a : α} (h : Le m m') (hr : m s = .ok a s') : m' s = .ok a s' := by
  rw [h.at_ s (by intro w hw; rw [hr] at hw; cases hw), hr]

theorem Le.raised {α} {m m' : RM α} {s s' : RState} {e : Exc} (h : Le m m') (hr : m s = .raised e s') :
    m' s = .raised e s' := by
  rw [h.at_ s (by intro w hw; rw [hr] at hw; cases hw), hr]

theorem le_trans {α} {m1 m2 m3 : RM α} (h12 : Le m1 m2) (h23 : Le m2 m3) : Le m1 m3 := by
  constructor
  intro s hs
  have h2 : m2 s = m1 s := h12.at_ s hs
  rw [← h2]
  exact h23.at_ s (by rw [h2]; exact hs)

theorem le_bind {α β} {m m' : RM α} {f f' : α → RM β} (hm : Le m m') (hf : ∀ a, Le (f a) (f' a)) :
    Le (m >>= f) (m' >>= f') := by
  refine ⟨fun s hs => ?_⟩
  simp only [bind] at hs ⊢
  cases hr : m s with
  | unsupported w => exact absurd (by simp [hr]) (hs w)
  | raised e s1 => rw [hm.raised hr]
  | ok a s1 =>
    rw [hm.ok hr]
    simp only [hr] at hs
    exact (hf a).at_ s1 hs

theorem le_bind_right {α β} {m : RM α} {f f' : α → RM β} (hf : ∀ a, Le (f a) (f' a)) : Le (m >>= f) (m >>= f') :=
  le_bind (le_refl m) hf

theorem le_forM {α} (l : List α) (f f' : α → RM Unit) (hf : ∀ a, Le (f a) (f' a)) : Le (l.forM f) (l.forM f') := by
  induction l with
  | nil => exact le_refl _
  | cons a rest ih =>
    show Le (f a >>= fun _ => rest.forM f) (f' a >>= fun _ => rest.forM f')
    exact le_bind (hf a) (fun _ => ih)

theorem le_unsupported {α} (w : String) (k : RM α) : Le (mUnsupported w : RM α) k :=
  ⟨fun _ hs => absurd rfl (hs w)⟩

theorem le_callee {m m' : RM Unit} (enter : RState → RState) (leaveOk leaveErr : RState → RState → RState) (h : Le m m') :
    Le (callee m enter leaveOk leaveErr) (callee m' enter leaveOk leaveErr) := by
  refine ⟨fun s hs => ?_⟩
  have hm : m' (enter s) = m (enter s) := h.at_ (enter s) (fun w hw => hs w (by simp only [callee, hw]))
  simp only [callee, hm]

set_option hygiene false in
/-- `hE`, `hL`, `hD`, `hR` are the induction hypotheses of `fuel_mono` (the macro names them on purpose); anywhere else only
`le_refl` and `assumption` apply, so callers put what they need into the context first -/
macro "le_atom" : tactic => `(tactic| first
  | exact le_refl _
  | exact hE _ _
  | exact hL _ _
  | exact hD _ _ _ _
  | exact hR _ _ _ _ _ _ _ _
  | assumption)

macro "le" : tactic => `(tactic| repeat' (first
  | le_atom
  | (apply le_bind)
  | (apply le_forM)
  | (intro _)
  | split))

theorem iteration_mono (key names loc ws item rem) {b b' c c' : RM Unit} (hb : Le b b') (hc : Le c c') :
    Le (iteration key names loc ws item rem b c) (iteration key names loc ws item rem b' c') := by
  rw [iteration_eq, iteration_eq]
  exact le_bind_right fun _ => le_bind_right fun _ => le_bind hb fun _ => le_bind_right fun _ => hc

theorem assignment_mono (cfg al names e loc) {k k' : List (Str × Option Val) → RM Unit} (h : ∀ bk, Le (k bk) (k' bk)) :
    Le (assignment cfg al names e loc k) (assignment cfg al names e loc k') := by
  rw [assignment_eq, assignment_eq]
  exact le_bind_right fun _ => le_bind_right fun _ => le_bind_right fun _ => h _

theorem repetition_mono (cfg al names e loc) {l l' : Str → List Val → RM Unit} (h : ∀ tag items, Le (l tag items) (l' tag items)) :
    Le (repetition cfg al names e loc l) (repetition cfg al names e loc l') := by
  rw [repetition_eq, repetition_eq]
  exact le_bind_right fun _ => le_bind_right fun _ => le_bind_right fun _ => le_bind_right fun _ =>
    le_bind_right fun _ => le_bind_right fun _ => le_bind_right fun _ => le_bind_right fun _ =>
    le_bind (h _ _) fun _ => le_refl _

theorem onErrorOf_mono (cfg : ECfg) (id : Nat) {fb fb' k k' : RM Unit} (hfb : Le fb fb') (hk : Le k k') :
    Le (Spec.onErrorOf cfg id fb k) (Spec.onErrorOf cfg id fb' k') := by
  refine ⟨fun s hs => ?_⟩
  simp only [onErrorOf_eq] at hs ⊢
  generalize onErrorEnter _ s = s1 at hs ⊢
  cases hr : k s1 with
  | unsupported w => exact absurd (by rw [hr]) (hs w)
  | ok u s' => rw [hk.ok hr]
  | raised ex s' =>
    rw [hk.raised hr]
    simp only [hr] at hs ⊢
    split
    · rfl
    · rename_i hsub
      simp only [hsub] at hs
      split
      · rfl
      · rename_i s2 ho
        simp only [ho] at hs
        exact hfb.at_ _ hs

theorem slotOf_mono (cfg : ECfg) {G F : Nat} (hcl : ∀ al n, Le (eval cfg al G n) (eval cfg al F n)) (ds : Option Tok)
    {k k' : RM Unit} (hk : Le k k') : Le (Spec.slotOf cfg G ds k) (Spec.slotOf cfg F ds k') := by
  cases ds with
  | none => exact hk
  | some nm =>
    refine ⟨fun s hs => ?_⟩
    rcases slotOf_cases cfg nm s with h | h | ⟨cl, h⟩
    · simp only [h] at hs ⊢; exact hk.at_ s hs
    · rw [h, h]
    · simp only [h] at hs ⊢; exact (le_callee (fillerEnter cl) fillerLeave fillerRaise (hcl cl.al cl.node)).at_ s hs

theorem fuel_mono (cfg : ECfg) : ∀ f g, f ≤ g →
    (∀ al node, Le (eval cfg al f node) (eval cfg al g node)) ∧
    (∀ al ns, Le (evalList cfg al f ns) (evalList cfg al g ns)) ∧
    (∀ al as node bk, Le (evalDefine cfg al f as node bk) (evalDefine cfg al g as node bk)) ∧
    (∀ al key names loc ws node items rem,
      Le (evalRepeat cfg al f key names loc ws node items rem) (evalRepeat cfg al g key names loc ws node items rem)) := by
  intro f
  induction f with
  | zero =>
    intro g _
    refine ⟨?_, ?_, ?_, ?_⟩ <;> intros <;> simp only [eval, evalList, evalDefine, evalRepeat] <;> exact le_unsupported _ _
  | succ f ih =>
    intro g0 hg
    cases g0 with
    | zero => omega
    | succ g =>
    obtain ⟨hE, hL, hD, hR⟩ := ih g (by omega)
    refine ⟨?_, ?_, ?_, ?_⟩
    · intro al node
      cases node with
      | text s | end_ name space pfx suffix | «attribute» name e quote eq space dflt filters | dictAttrs id e exclude
      | content e esc translate | interpolation e | codeBlock src => simp only [eval]; exact le_refl _
      | element st en ct | start name pfx suffix attrs | condition c node orelse | cache es node | cancel ids node
      | translate id msgid node | name nm node | domain d node | txContext c node | target e node => simp only [eval]; le
      | seq ns => simp only [eval]; exact hL al ns
      | define assigns node => simp only [eval]; exact hD al assigns node []
      | repeat_ id names e local_ ws node =>
        rw [eval_repeat, eval_repeat]; exact repetition_mono _ _ _ _ _ (fun _ _ => hR ..)
      | onError id fallback node => rw [eval_onError, eval_onError]; exact onErrorOf_mono cfg id (hE al fallback) (hE al node)
      | defineSlot nm node => rw [eval_defineSlot, eval_defineSlot]; exact slotOf_mono cfg hE (some nm) (hE al node)
      | useExternal e slots extend =>
        simp only [eval]
        refine le_bind_right (fun _ => le_bind_right (fun v => ?_))
        split
        · rename_i tid name _
          split
          · exact le_refl _
          · rename_i body _
            exact le_callee (macroEnter tid body) macroLeave macroRaise (hE [] body)
        · exact le_refl _
      | useInternal name =>
        simp only [eval]
        split
        · exact le_refl _
        · rename_i nm
          refine ⟨fun s hs => ?_⟩
          cases hb : lookupAssoc (cfg.macrosOf s.env.topFrame.tid) nm with
          | none => exact absurd (by simp only [hb]) (hs "unknown internal macro")
          | some body =>
            simp only [hb] at hs ⊢
            exact (le_callee (macroEnter s.env.topFrame.tid body) macroLeave macroRaise (hE [] body)).at_
              { s with x := { s.x with token := none } } hs
    · intro al ns
      cases ns with
      | nil => simp only [evalList]; exact le_refl _
      | cons n rest => simp only [evalList]; le
    · intro al as node bk
      cases as with
      | nil => simp only [evalDefine]; le
      | cons a rest =>
        cases a with
        | alias name e => simp only [evalDefine]; le
        | assign names e local_ =>
          rw [evalDefine_assign, evalDefine_assign]; exact assignment_mono _ _ _ _ _ (fun _ => hD ..)
    · intro al key names loc ws node items rem
      cases items with
      | nil => simp only [evalRepeat]; exact le_refl _
      | cons item rest => rw [evalRepeat_cons, evalRepeat_cons]; exact iteration_mono _ _ _ _ _ _ (hE ..) (hR ..)

theorem eval_fuel_le (cfg : ECfg) (al : List (Str × Val)) (node : Node) (f g : Nat) (h : f ≤ g) :
    Le (eval cfg al f node) (eval cfg al g node) := (fuel_mono cfg f g h).1 al node

theorem evalList_fuel_le (cfg : ECfg) (al : List (Str × Val)) (ns : List Node) (f g : Nat) (h : f ≤ g) :
    Le (evalList cfg al f ns) (evalList cfg al g ns) := (fuel_mono cfg f g h).2.1 al ns

/-- **fuel adequacy**: if rendering `node` with fuel `f` completes normally, it completes in the same state with any
fuel `F ≥ f` -/
theorem eval_fuel_ok (cfg : ECfg) (al : List (Str × Val)) (node : Node) (f F : Nat) (hF : f ≤ F) (s s' : RState)
    (h : eval cfg al f node s = .ok () s') : eval cfg al F node s = .ok () s' :=
  (eval_fuel_le cfg al node f F hF).ok h

/-- … and if it raises, it raises the same exception in the same state -/
theorem eval_fuel_raised (cfg : ECfg) (al : List (Str × Val)) (node : Node) (f F : Nat) (hF : f ≤ F) (s s' : RState) (ex : Exc)
    (h : eval cfg al f node s = .raised ex s') : eval cfg al F node s = .raised ex s' :=
  (eval_fuel_le cfg al node f F hF).raised h

end ChamVerif.Fuel
