import ChamProofs.Steps
/-! # Invariants of the interpreter, proved once

A *step relation* is a pair `R`, `E` of relations between the state a computation starts in and the state it ends in —
`R` when it completes normally, `E` when it raises — that is closed under sequencing.  `I.Tri m` says that `m` respects
it.  Most of what `eval` does touches only state components no invariant of interest looks at (`Quiet`); an invariant is
therefore determined by what it says about the few constructs that do more: `emit`, the sub-stream bracket, the scoped
i18n settings, callees (macros, slot fillers) and the `tal:on-error` handler.  `EvalInv.all` is the one induction over
the four mutually recursive evaluators that turns those facts into a statement about every node. -/
namespace ChamVerif

/-- `econtext._root` as the model keeps it: the dictionary a copy delegates to, and whether the scope is a copy at all
(`Env.rootDict` is something else: what a *new* copy of this scope would get as its root) -/
def Root.rootOf (s : RState) : List (Str × Val) × Bool := (s.env.root, s.env.hasRoot)

/-- the i18n settings of one activation, and of all of them -/
def I18n.triple (fr : Frame) : Option Str × Option Str × Val := (fr.domain, fr.context, fr.targetLang)
def I18n.settings (s : RState) : List (Option Str × Option Str × Val) := s.env.frames.map I18n.triple

structure StepRel where
  R : RState → RState → Prop
  E : RState → RState → Prop
  refl : ∀ s, R s s
  reflE : ∀ s, E s s
  trans : ∀ {s₁ s₂ s₃}, R s₁ s₂ → R s₂ s₃ → R s₁ s₃
  transE : ∀ {s₁ s₂ s₃}, R s₁ s₂ → E s₂ s₃ → E s₁ s₃

namespace StepRel
variable (I : StepRel)

def At {α} (m : RM α) (s : RState) : Prop :=
  (∀ a s', m s = .ok a s' → I.R s s') ∧ (∀ e s', m s = .raised e s' → I.E s s')

structure Tri {α} (m : RM α) : Prop where
  at_ : ∀ s, I.At m s

variable {I}

theorem At.ok {α} {m : RM α} {s s' : RState} {a : α} (h : m s = .ok a s') (hR : I.R s s') : I.At m s :=
  ⟨fun _ _ h' => (by rw [h] at h'; cases h'; exact hR), fun _ _ h' => (by rw [h] at h'; cases h')⟩

theorem At.raised {α} {m : RM α} {s s' : RState} {e : Exc} (h : m s = .raised e s') (hE : I.E s s') : I.At m s :=
  ⟨fun _ _ h' => (by rw [h] at h'; cases h'), fun _ _ h' => (by rw [h] at h'; cases h'; exact hE)⟩

theorem At.unsupported {α} {m : RM α} {s : RState} {w : String} (h : m s = .unsupported w) : I.At m s :=
  ⟨fun _ _ h' => (by rw [h] at h'; cases h'), fun _ _ h' => (by rw [h] at h'; cases h')⟩

theorem Tri.pure {α} (a : α) : I.Tri (pure a : RM α) := ⟨fun s => At.ok rfl (I.refl s)⟩
theorem Tri.raise {α} (e : Exc) : I.Tri (mRaise e : RM α) := ⟨fun s => At.raised rfl (I.reflE s)⟩
theorem Tri.unsupported {α} (w : String) : I.Tri (mUnsupported w : RM α) := ⟨fun _ => At.unsupported rfl⟩
theorem Tri.get : I.Tri mGet := ⟨fun s => At.ok rfl (I.refl s)⟩

theorem Tri.liftR {α} (r : ChamVerif.R α) : I.Tri (mLiftR r) := by
  refine ⟨fun s => ?_⟩
  cases r
  · exact At.ok rfl (I.refl s)
  · exact At.raised rfl (I.reflE s)
  · exact At.unsupported rfl

theorem Tri.total {α} {m : RM α} (f : RState → α × RState) (hm : ∀ s, m s = .ok (f s).1 (f s).2) (hf : ∀ s, I.R s (f s).2) :
    I.Tri m :=
  ⟨fun s => At.ok (hm s) (hf s)⟩

theorem Tri.modify (f : RState → RState) (hf : ∀ s, I.R s (f s)) : I.Tri (mModify f) :=
  Tri.total (fun s => ((), f s)) (fun _ => rfl) hf

theorem At.bind {α β} {m : RM α} {f : α → RM β} {s : RState} (hm : I.At m s)
    (hf : ∀ a s', m s = .ok a s' → I.At (f a) s') : I.At (m >>= f) s := by
  constructor
  · intro b s' h
    simp only [Bind.bind] at h
    cases hr : m s with
    | ok a s1 => rw [hr] at h; exact I.trans (hm.1 a s1 hr) ((hf a s1 hr).1 b s' h)
    | raised e s1 => rw [hr] at h; cases h
    | unsupported w => rw [hr] at h; cases h
  · intro e s' h
    simp only [Bind.bind] at h
    cases hr : m s with
    | ok a s1 => rw [hr] at h; exact I.transE (hm.1 a s1 hr) ((hf a s1 hr).2 e s' h)
    | raised e1 s1 => rw [hr] at h; cases h; exact hm.2 _ _ hr
    | unsupported w => rw [hr] at h; cases h

theorem At.congr {α} {m m' : RM α} {s : RState} (h : m s = m' s) (hm : I.At m' s) : I.At m s := by
  unfold At; rw [h]; exact hm

theorem Tri.bind {α β} {m : RM α} {f : α → RM β} (hm : I.Tri m) (hf : ∀ a, I.Tri (f a)) : I.Tri (m >>= f) :=
  ⟨fun s => (hm.at_ s).bind (fun a s' _ => (hf a).at_ s')⟩

/-- the continuation may depend on the state read -/
theorem Tri.get_bind {β} {f : RState → RM β} (hf : ∀ s, I.At (f s) s) : I.Tri (mGet >>= f) :=
  ⟨fun s => (Tri.get.at_ s).bind (fun _ _ h => by cases h; exact hf s)⟩

theorem Tri.forM {α} (l : List α) {f : α → RM Unit} (hf : ∀ a, I.Tri (f a)) : I.Tri (l.forM f) := by
  induction l with
  | nil => exact Tri.pure ()
  | cons a rest ih => exact Tri.bind (hf a) (fun _ => ih)

theorem Tri.callee (m : RM Unit) (enter : RState → RState) (leaveOk leaveErr : RState → RState → RState)
    (hok : ∀ s s', m (enter s) = .ok () s' → I.R s (leaveOk s s'))
    (herr : ∀ s e s', m (enter s) = .raised e s' → I.E s (leaveErr s s')) :
    I.Tri (callee m enter leaveOk leaveErr) := by
  refine ⟨fun s => ?_⟩
  cases hr : m (enter s) with
  | ok u s1 => exact At.ok (by simp only [ChamVerif.callee, hr]; rfl) (hok s s1 hr)
  | raised e s1 => exact At.raised (by simp only [ChamVerif.callee, hr]; rfl) (herr s e s1 hr)
  | unsupported w => exact At.unsupported (by simp only [ChamVerif.callee, hr]; rfl)

/-! For a relation that does not look at the output streams, or at the activations, the constructs that only touch those
are steps like any other. -/

theorem Tri.streams (h : ∀ s l, I.R s { s with streams := l }) :
    (∀ t, I.Tri (emit t)) ∧ I.Tri pushStream ∧ I.Tri popStream := by
  refine ⟨fun t => Tri.modify _ (fun s => ?_), Tri.modify _ (fun s => h s _),
    Tri.total (fun s => match s.streams with | top :: rest => (top, { s with streams := rest }) | [] => ([], s))
      (fun s => ?_) (fun s => ?_)⟩
  · cases s.streams <;> exact h s _
  · unfold popStream; cases s.streams <;> rfl
  · cases hs : s.streams
    · exact I.refl s
    · exact h s _

theorem Tri.bracket_of (h : ∀ s l, I.R s { s with streams := l }) {β} (body : RM Unit) (k : Str → RM β)
    (hb : I.Tri body) (hk : ∀ v, I.Tri (k v)) : I.Tri (pushStream >>= fun _ => body >>= fun _ => popStream >>= k) :=
  Tri.bind (Tri.streams h).2.1 fun _ => Tri.bind hb fun _ => Tri.bind (Tri.streams h).2.2 hk

theorem Tri.modFrame_of (h : ∀ s fs, I.R s { s with env := { s.env with frames := fs } }) (f : Frame → Frame) :
    I.Tri (modFrame f) :=
  Tri.modify _ (fun s => by cases hf : s.env.frames <;> simp only [hf] <;> exact h s _)

theorem Tri.setting_of (h : ∀ s fs, I.R s { s with env := { s.env with frames := fs } }) {β} (setF restoreF : Frame → Frame)
    (body : RM Unit) (k : RM β) (hb : I.Tri body) (hk : I.Tri k) :
    I.Tri (modFrame setF >>= fun _ => body >>= fun _ => modFrame restoreF >>= fun _ => k) :=
  Tri.bind (Tri.modFrame_of h setF) fun _ => Tri.bind hb fun _ => Tri.bind (Tri.modFrame_of h restoreF) fun _ => hk

/-- (`tm`, `er`: the fallback starts with `tmaps` and `errs` cut back to their lengths at the element's start, so the
relation must hold whatever these two are) -/
theorem Tri.onErrorOf (cfg : ECfg) (id : Nat) {kfb k : RM Unit} (hfb : I.Tri kfb) (hk : I.Tri k)
    (henter : ∀ key s, I.R s (onErrorEnter key s))
    (hhandle : ∀ key s ex sb s2 tm er, I.E s sb →
      onErrorHandle cfg key s.streams.length (s.streams.headD []).length ex sb = some s2 →
      I.R s { s2 with tmaps := tm, errs := er }) :
    I.Tri (Spec.onErrorOf cfg id kfb k) := by
  refine ⟨fun s => ?_⟩
  generalize hkey : (if cfg.tc.q.sharedFallbackVar then 0 else id) = key
  have he := henter key s
  cases hr : k (onErrorEnter key s) with
  | ok u s1 => exact At.ok (onErrorOf_ok cfg id kfb k s hkey hr) (I.trans he ((hk.at_ _).1 _ _ hr))
  | unsupported w => exact At.unsupported (by rw [onErrorOf_eq, hkey, hr])
  | raised ex sb =>
    have hsb : I.E s sb := I.transE he ((hk.at_ _).2 _ _ hr)
    cases hexc : isSubclass cfg ex.cls ["Exception"] with
    | false => exact At.raised (onErrorOf_unhandled cfg id kfb k s hkey hr hexc) hsb
    | true =>
      cases ho : onErrorHandle cfg key s.streams.length (s.streams.headD []).length ex sb with
      | none => simp [onErrorHandle] at ho   -- the handler always answers `some`
      | some s2 =>
        refine At.congr (m' := fun _ => kfb _) (onErrorOf_handled cfg id kfb k s hkey hr hexc ho)
          ⟨fun a s' h => ?_, fun e s' h => ?_⟩
        · exact I.trans (hhandle key s ex sb s2 _ _ hsb ho) ((hfb.at_ _).1 a s' h)
        · exact I.transE (hhandle key s ex sb s2 _ _ hsb ho) ((hfb.at_ _).2 e s' h)

end StepRel

/-- a step that touches nothing an invariant looks at: not the output, not the root of the scope, not the i18n settings of
any activation (with no activation at all, `modFrame` creates one) -/
def Quiet (s s' : RState) : Prop :=
  s'.streams = s.streams ∧ Root.rootOf s' = Root.rootOf s ∧ (s.env.frames ≠ [] → I18n.settings s' = I18n.settings s)

/-- `restoreF` puts back what `setF` changes of the i18n settings of the current activation of `s` (applied to any frame
`fr'` with the settings `setF` left: the body may have changed the frame's other fields) -/
def Restores (setF restoreF : Frame → Frame) (s : RState) : Prop :=
  ∀ fr fr', s.env.frames.head? = some fr → I18n.triple fr' = I18n.triple (setF fr) →
    I18n.triple (restoreF fr') = I18n.triple fr

theorem quiet_onErrorEnter (key : Nat) (s : RState) : Quiet s (onErrorEnter key s) := by
  unfold onErrorEnter
  cases h : s.env.frames <;> simp [Quiet, Root.rootOf, I18n.settings, I18n.triple, h]

/-- the sub-nodes a node renders in its own activation (not: macro bodies, slot fillers) -/
def Node.kids : Node → List Node
  | .seq ns => ns
  | .element st en ct => st :: ct :: en.toList
  | .start _ _ _ attrs => [attrs]
  | .condition _ n o => n :: o.toList
  | .cache _ n | .cancel _ n | .define _ n | .repeat_ _ _ _ _ _ n | .translate _ _ n | .name _ n | .domain _ n
  | .txContext _ n | .target _ n | .defineSlot _ n => [n]
  | .onError _ fb n => [fb, n]
  | _ => []

/-- what an invariant has to say about the constructs that are not `Quiet`, for the nodes `H` it is claimed for -/
structure EvalInv (cfg : ECfg) extends StepRel where
  H : Node → Prop
  kids : ∀ n, H n → ∀ c ∈ n.kids, H c
  quiet : ∀ {s s'}, Quiet s s' → R s s' ∧ E s s'
  emit : ∀ t, toStepRel.Tri (emit t)
  /-- a sub-stream: `pushStream`, `body`, `popStream` -/
  bracket : ∀ {β} (body : RM Unit) (k : Str → RM β), toStepRel.Tri body → (∀ v, toStepRel.Tri (k v)) →
    toStepRel.Tri (pushStream >>= fun _ => body >>= fun _ => popStream >>= k)
  /-- an i18n setting in force for `body`; pointwise, because `restoreF` closes over a value read from the state -/
  setting : ∀ {β} (setF restoreF : Frame → Frame) (body : RM Unit) (k : RM β) (s : RState), Restores setF restoreF s →
    toStepRel.Tri body → toStepRel.Tri k →
    toStepRel.At (modFrame setF >>= fun _ => body >>= fun _ => modFrame restoreF >>= fun _ => k) s
  /-- a macro function; what it does itself counts only for an invariant claimed for every node -/
  macroCall : ∀ (tid : Nat) (body : Node) (m : RM Unit), ((∀ n, H n) → toStepRel.Tri m) →
    toStepRel.Tri (callee m (macroEnter tid body) macroLeave macroRaise)
  fillerCall : ∀ (cl : Closure) (m : RM Unit), ((∀ n, H n) → toStepRel.Tri m) →
    toStepRel.Tri (callee m (fillerEnter cl) fillerLeave fillerRaise)
  /-- the `tal:on-error` handler, reached from a state the failed element may have left -/
  handler : ∀ (id : Nat) (fb n : Node), H (.onError id fb n) → ∀ key s ex sb s2 tm er, E s sb →
    onErrorHandle cfg key s.streams.length (s.streams.headD []).length ex sb = some s2 →
    R s { s2 with tmaps := tm, errs := er }

namespace EvalInv
open StepRel
variable {cfg : ECfg} (I : EvalInv cfg)

theorem tri_quiet (f : RState → RState) (hf : ∀ s, Quiet s (f s)) : I.Tri (mModify f) :=
  Tri.modify f (fun s => (I.quiet (hf s)).1)

theorem tri_liftX {α} (m : Env → XM α) : I.Tri (liftX m) := by
  refine ⟨fun s => ?_⟩
  have hq : ∀ x', Quiet s { s with x := x' } := fun _ => ⟨rfl, rfl, fun _ => rfl⟩
  cases hm : m s.env s.x with
  | ok a x' => exact At.ok (by unfold liftX; rw [hm]) (I.quiet (hq x')).1
  | raised e x' => exact At.raised (by unfold liftX; rw [hm]) (I.quiet (hq x')).2
  | unsupported w => exact At.unsupported (by unfold liftX; rw [hm])

theorem tri_modEnv (f : Env → Env) (hf : ∀ e, (f e).root = e.root ∧ (f e).hasRoot = e.hasRoot ∧ (f e).frames = e.frames) :
    I.Tri (modEnv f) :=
  I.tri_quiet _ (fun s => ⟨rfl, Prod.ext (hf s.env).1 (hf s.env).2.1, fun _ => congrArg (List.map I18n.triple) (hf s.env).2.2⟩)

theorem tri_modFrame (f : Frame → Frame) (hf : ∀ fr, I18n.triple (f fr) = I18n.triple fr) : I.Tri (modFrame f) := by
  refine I.tri_quiet _ (fun s => ⟨rfl, ?_, fun hs => ?_⟩) <;> cases h : s.env.frames <;>
    simp_all [Root.rootOf, I18n.settings]

theorem tri_setVar (k : Str) (v : Val) : I.Tri (setVar k v) := I.tri_modEnv _ (fun _ => ⟨rfl, rfl, rfl⟩)

theorem tri_setTName (n v : Str) : I.Tri (setTName n v) :=
  I.tri_quiet _ (fun s => by cases h : s.tmaps <;> exact ⟨rfl, rfl, fun _ => rfl⟩)

theorem tri_attrFiltered (name : Str) (filters : List Nat) : I.Tri (attrFiltered name filters) := by
  refine Tri.get_bind (fun s => ?_)
  show I.At (attrFiltered.go name s.env.topFrame filters) s
  generalize s.env.topFrame = fr
  induction filters with
  | nil => exact (Tri.pure _).at_ s
  | cons id rest ih =>
    unfold attrFiltered.go
    split
    -- the arms of `attrFiltered.go`: three containers, three `TypeError`s, two unsupported
    iterate 3 (split; exact (Tri.pure _).at_ s; exact ih)
    iterate 3 exact (Tri.raise _).at_ s
    iterate 2 exact (Tri.unsupported _).at_ s

/-- one step towards `I.Tri m` for an `m` put together with `>>=`, `forM`, `if` and `match` from quiet steps, `emit` and
computations for which it is a hypothesis (callers put those into the context as anonymous `have`s: `assumption` first) -/
macro "tri_step " I:term:max : tactic => `(tactic| first
  | assumption
  | apply Tri.bind | apply Tri.forM | intro _ | split
  | exact Tri.pure _ | exact Tri.raise _ | exact Tri.unsupported _
  | exact EvalInv.tri_liftX $I _ | exact Tri.liftR _ | exact Tri.get | exact EvalInv.emit $I _
  | exact EvalInv.tri_quiet $I _ (fun _ => ⟨rfl, rfl, fun _ => rfl⟩)
  | exact EvalInv.tri_modFrame $I _ (fun _ => rfl) | exact EvalInv.tri_setTName $I _ _)

macro "tri " I:term:max : tactic => `(tactic| repeat' tri_step $I)

theorem tri_bindNames (names : List Tok) (loc : Bool) (v : Val) : I.Tri (bindNames names loc v) := by
  simp only [bindNames]; tri I

theorem setting0 (setF restoreF : Frame → Frame) (body : RM Unit) (s : RState) (h : Restores setF restoreF s)
    (hb : I.Tri body) : I.At (modFrame setF >>= fun _ => body >>= fun _ => modFrame restoreF) s := by
  have := I.setting setF restoreF body (pure ()) s h hb (Tri.pure _)
  rwa [rm_bind_pure_unit] at this

/-- **every node respects the invariant**: all four evaluators, every node `H` holds of, every fuel -/
theorem all : ∀ f,
    (∀ al node, I.H node → I.Tri (eval cfg al f node)) ∧
    (∀ al ns, (∀ n ∈ ns, I.H n) → I.Tri (evalList cfg al f ns)) ∧
    (∀ al as node bk, I.H node → I.Tri (evalDefine cfg al f as node bk)) ∧
    (∀ al key names loc ws node items rem, I.H node → I.Tri (evalRepeat cfg al f key names loc ws node items rem)) := by
  intro f
  induction f with
  | zero =>
    refine ⟨?_, ?_, ?_, ?_⟩ <;> intros <;> simp only [eval, evalList, evalDefine, evalRepeat] <;> exact Tri.unsupported _
  | succ f ih =>
    obtain ⟨ihE, ihL, ihD, ihR⟩ := ih
    refine ⟨?_, ?_, ?_, ?_⟩
    · intro al node hH
      have hk : ∀ c ∈ node.kids, I.Tri (eval cfg al f c) := fun c hc => ihE al c (I.kids node hH c hc)
      -- a callee's own steps count only when the invariant is claimed for all nodes
      have hcallee : ∀ al' body, (∀ n, I.H n) → I.Tri (eval cfg al' f body) := fun al' body hall => ihE al' body (hall body)
      cases node with
      | text s | end_ name space pfx suffix => simp only [eval]; exact I.emit _
      | seq ns => simp only [eval]; exact ihL al ns (I.kids _ hH)
      | element st en ct =>
        have := hk st (by simp [Node.kids]); have := hk ct (by simp [Node.kids])
        cases en with
        | none => simp only [eval]; tri I
        | some e => have := hk e (by simp [Node.kids]); simp only [eval]; tri I
      | start name pfx suffix attrs => have := hk attrs (by simp [Node.kids]); simp only [eval]; tri I
      | «attribute» name e quote eq space dflt filters =>
        have := I.tri_attrFiltered name filters   -- itself a `>>=`: not to be taken apart
        simp only [eval]; tri I
      | dictAttrs id e exclude | content e esc translate | interpolation e => simp only [eval]; tri I
      | condition c node orelse =>
        have := hk node (by simp [Node.kids])
        cases orelse with
        | none => simp only [eval]; tri I
        | some o => have := hk o (by simp [Node.kids]); simp only [eval]; tri I
      | cache es node => have := hk node (by simp [Node.kids]); simp only [eval]; tri I
      | cancel ids node => have := hk node (by simp [Node.kids]); simp only [eval]; tri I
      | define assigns node => simp only [eval]; exact ihD al assigns node [] (I.kids _ hH node (by simp [Node.kids]))
      | repeat_ id names e local_ ws node =>
        have := fun key its rem => ihR al key names local_ ws node its rem (I.kids _ hH node (by simp [Node.kids]))
        rw [eval_repeat, repetition_eq]
        refine Tri.bind Tri.get fun s0 => Tri.bind (I.tri_liftX _) fun it => Tri.bind ?_ fun _ => Tri.bind ?_ fun items =>
          Tri.bind Tri.get fun s1 => Tri.bind (I.tri_quiet _ fun _ => ⟨rfl, rfl, fun _ => rfl⟩) fun _ =>
          Tri.bind (I.tri_quiet _ fun _ => ⟨rfl, rfl, fun _ => rfl⟩) fun _ =>
          Tri.bind (Tri.forM _ fun _ => I.tri_setVar _ _) fun _ => Tri.bind (this ..) fun _ => ?_
        all_goals tri I
      | onError id fallback node =>
        rw [eval_onError]
        exact Tri.onErrorOf cfg id (hk fallback (by simp [Node.kids])) (hk node (by simp [Node.kids]))
          (fun key s => (I.quiet (quiet_onErrorEnter key s)).1) (I.handler id fallback node hH)
      | translate id msgid node =>
        simp only [eval]
        refine Tri.bind (I.tri_quiet _ (fun _ => ⟨rfl, rfl, fun _ => rfl⟩)) (fun _ => ?_)
        refine I.bracket _ _ (hk node (by simp [Node.kids])) (fun v => ?_)
        tri I
      | name nm node =>
        simp only [eval]
        refine I.bracket _ _ (hk node (by simp [Node.kids])) (fun v => ?_)
        tri I
      | domain d node =>
        simp only [eval]
        refine Tri.get_bind (fun s0 => I.setting0 _ _ _ s0 ?_ (hk node (by simp [Node.kids])))
        intro fr fr' hf h
        simp only [topFrame_of_head? hf, I18n.triple, Prod.mk.injEq] at h ⊢
        exact ⟨trivial, h.2⟩
      | txContext c node =>
        simp only [eval]
        refine Tri.get_bind (fun s0 => I.setting0 _ _ _ s0 ?_ (hk node (by simp [Node.kids])))
        intro fr fr' hf h
        simp only [topFrame_of_head? hf, I18n.triple, Prod.mk.injEq] at h ⊢
        exact ⟨h.1, trivial, h.2.2⟩
      | target e node =>
        simp only [eval]
        refine Tri.get_bind (fun s0 => (I.tri_liftX _ |>.at_ s0).bind (fun v s1 hv => ?_))
        obtain ⟨x', rfl⟩ := liftX_ok hv
        -- `setVar` always completes, so `setVar; eval node` is the body by unfolding
        refine I.setting _ _ (setVar (lit "target_language") v >>= fun _ => eval cfg al f node) _ _ ?_
          (Tri.bind (I.tri_setVar _ _) (fun _ => hk node (by simp [Node.kids]))) (I.tri_setVar _ _)
        intro fr fr' hf h
        simp only [topFrame_of_head? hf, I18n.triple, Prod.mk.injEq] at h ⊢
        exact ⟨h.1, h.2.1, trivial⟩
      | defineSlot nm node =>
        have hn := hk node (by simp [Node.kids])
        rw [eval_defineSlot]
        refine ⟨fun s => ?_⟩
        rcases slotOf_cases cfg nm s with h | h | ⟨cl, h⟩
        · exact At.congr (h ..) (hn.at_ s)
        · exact At.unsupported (h ..)
        · exact At.congr (h ..) ((I.fillerCall cl _ (hcallee cl.al cl.node)).at_ s)
      | useExternal e slots extend =>
        simp only [eval]
        refine Tri.bind (Tri.forM _ (fun ns => Tri.get_bind (fun s0 => ?_))) (fun _ => Tri.bind (I.tri_liftX _) (fun v => ?_))
        · -- a new closure, and its deque: `closures` and `heap` only
          have hset : ∀ c h, I.At (mSet { s0 with closures := c, heap := h }) s0 :=
            fun c h => At.ok rfl (I.quiet (s := s0) (s' := { s0 with closures := c, heap := h }) ⟨rfl, rfl, fun _ => rfl⟩).1
          obtain ⟨nm, sn⟩ := ns
          simp only
          split
          · exact hset _ _
          · exact (Tri.unsupported _).at_ s0
          · exact (hset _ _).bind (fun _ s' _ => (I.tri_setVar _ _).at_ s')
        · split
          · split
            · exact Tri.unsupported _
            · exact I.macroCall _ _ _ (hcallee [] _)
          · exact Tri.unsupported _
      | useInternal name =>
        simp only [eval]
        split
        · exact Tri.unsupported _
        · rename_i nm
          refine ⟨fun s => ?_⟩
          cases hb : lookupAssoc (cfg.macrosOf s.env.topFrame.tid) nm with
          | none => exact At.congr (by simp only [hb]; rfl) ((Tri.unsupported "unknown internal macro").at_ s)
          | some body =>
            -- the call proper starts from `s` with `__token` cleared
            have hq := I.quiet (s := s) (s' := { s with x := { s.x with token := none } }) ⟨rfl, rfl, fun _ => rfl⟩
            have hw := (I.macroCall s.env.topFrame.tid body _ (hcallee [] body)).at_ { s with x := { s.x with token := none } }
            exact At.congr (m' := fun _ => _) (by simp only [hb]; rfl)
              ⟨fun a s' h => I.trans hq.1 (hw.1 a s' h), fun e s' h => I.transE hq.1 (hw.2 e s' h)⟩
      | codeBlock src => simp only [eval]; exact Tri.unsupported _
    · intro al ns hns
      cases ns with
      | nil => simp only [evalList]; exact Tri.pure _
      | cons n rest =>
        simp only [evalList]
        exact Tri.bind (ihE al n (hns n (List.mem_cons_self ..))) (fun _ => ihL al rest (fun m hm => hns m (List.mem_cons_of_mem _ hm)))
    · intro al as node bk hH
      have := ihE al node hH
      cases as with
      | nil => simp only [evalDefine]; tri I
      | cons a rest =>
        have := fun al' bk' => ihD al' rest node bk' hH
        cases a with
        | alias name e => simp only [evalDefine]; tri I; exact this ..
        | assign names e local_ =>
          rw [evalDefine_assign, assignment_eq]
          exact Tri.bind Tri.get fun _ => Tri.bind (I.tri_liftX _) fun _ => Tri.bind (I.tri_bindNames ..) fun _ => this ..
    · intro al key names loc ws node items rem hH
      cases items with
      | nil => simp only [evalRepeat]; exact Tri.pure _
      | cons item rest =>
        rw [evalRepeat_cons, iteration_eq]
        exact Tri.bind (I.tri_quiet _ fun _ => ⟨rfl, rfl, fun _ => rfl⟩) fun _ => Tri.bind (I.tri_bindNames ..) fun _ =>
          Tri.bind (ihE al node hH) fun _ => Tri.bind (by split; exact I.emit _; exact Tri.pure _) fun _ => ihR _ _ _ _ _ _ _ _ hH

end EvalInv
end ChamVerif
