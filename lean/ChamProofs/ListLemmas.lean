/-! # Lists as the models use them

First a few facts about `filter`, `takeWhile`, `getElem?` and `set` that core lacks; then finite maps kept as lists of
pairs.  A model's dictionary is a `List (κ × β)`: lookup is `(l.find? (·.1 == k)).map (·.2)`, removal is `filter (·.1 != k)`,
assignment replaces the value where the key stands or appends.  Core has `List.find?_filter` and `List.lookup`, but no
lemmas for this shape; the names below say `find?_key` for it. -/
namespace List
variable {α κ β : Type _}

theorem find?_filter_of_imp {p q : α → Bool} (h : ∀ a, q a = true → p a = true) (l : List α) :
    (l.filter p).find? q = l.find? q := by
  rw [find?_filter]
  congr 1; funext a
  cases hq : q a <;> simp
  exact h a hq

theorem filter_filter_of_imp {p q : α → Bool} {l : List α} (h : ∀ a ∈ l, q a = true → p a = true) :
    (l.filter p).filter q = l.filter q := by
  rw [filter_filter]
  apply filter_congr
  intro a ha
  cases hq : q a with
  | false => rfl
  | true => simp [h a ha hq]

theorem length_takeWhile_eq_iff {p : α → Bool} {l : List α} :
    (l.takeWhile p).length = l.length ↔ ∀ x ∈ l, p x = true := by
  constructor
  · intro h x hx
    rw [← (takeWhile_prefix p).eq_of_length h] at hx
    exact all_eq_true.mp all_takeWhile x hx
  · intro h
    rw [← append_nil l, takeWhile_append_of_pos h, takeWhile_nil]

theorem getElem?_append_add (l₁ l₂ : List α) (k : Nat) : (l₁ ++ l₂)[l₁.length + k]? = l₂[k]? := by
  rw [getElem?_append_right (Nat.le_add_right ..), Nat.add_sub_cancel_left]

theorem getElem?_concat_eq_some {l : List α} {a p : α} {k : Nat} :
    (l ++ [a])[k]? = some p ↔ l[k]? = some p ∨ (k = l.length ∧ a = p) := by
  rw [getElem?_append]
  split
  · rename_i h
    exact ⟨Or.inl, fun h' => h'.elim id (fun h1 => by omega)⟩
  · rename_i h
    rw [getElem?_eq_none (Nat.le_of_not_lt h)]
    simp [getElem?_singleton]
    omega

theorem map_set_same {α β : Type} (f : α → β) (l : List α) (k : Nat) (a : α) (d : α) (hk : k < l.length)
    (h : f a = f (l.getD k d)) : (l.set k a).map f = l.map f := by
  rw [map_set, h, show l.getD k d = l[k] by simp [getD, hk], ← getElem_map f (h := by simpa using hk), set_getElem_self]

theorem map_eq_self {f : α → α} {l : List α} (h : ∀ a ∈ l, f a = a) : l.map f = l :=
  (map_congr_left h).trans (map_id' l)

theorem find?_key_filter_ne [BEq κ] [LawfulBEq κ] {k k' : κ} (h : k' ≠ k) (l : List (κ × β)) :
    (l.filter (·.1 != k)).find? (·.1 == k') = l.find? (·.1 == k') :=
  find?_filter_of_imp (fun a ha => by rw [eq_of_beq ha]; simpa using h) l

/-- assignment as the models write it (`setFn`, `FS.set`): the new entry in front of the list without the key -/
theorem find?_key_cons_filter_ne [BEq κ] [LawfulBEq κ] {k k' : κ} (h : k' ≠ k) (v : β) (l : List (κ × β)) :
    ((k, v) :: l.filter (·.1 != k)).find? (·.1 == k') = l.find? (·.1 == k') := by
  rw [find?_cons_of_neg (by simpa using Ne.symm h), find?_key_filter_ne h]

theorem find?_key_filter_self [BEq κ] [LawfulBEq κ] (k : κ) (l : List (κ × β)) :
    (l.filter (·.1 != k)).find? (·.1 == k) = none := by
  rw [find?_filter, find?_eq_none]
  intro a _; simp

theorem filter_key_ne_self [BEq κ] [LawfulBEq κ] (k : κ) (l : List (κ × β)) (h : k ∉ l.map (·.1)) : l.filter (·.1 != k) = l := by
  rw [filter_eq_self]
  intro x hx
  have : x.1 ≠ k := fun he => h (he ▸ mem_map.mpr ⟨x, hx, rfl⟩)
  simpa using this

/-- the last occurrence of an element (core has the first: `eq_append_cons_of_mem`) -/
theorem eq_append_cons_last_of_mem {a : α} {l : List α} (h : a ∈ l) : ∃ as bs, l = as ++ a :: bs ∧ a ∉ bs := by
  obtain ⟨as, bs, hl, hn⟩ := eq_append_cons_of_mem (mem_reverse.mpr h)
  exact ⟨bs.reverse, as.reverse, by simpa using congrArg reverse hl, by simpa using hn⟩

theorem fst_of_find?_key [BEq κ] [LawfulBEq κ] {l : List (κ × β)} {k : κ} {x : κ × β}
    (h : l.find? (·.1 == k) = some x) : x.1 = k :=
  eq_of_beq (find?_some (p := fun e : κ × β => e.1 == k) h)

theorem mem_of_find?_key [BEq κ] [LawfulBEq κ] {l : List (κ × β)} {k : κ} {v : β}
    (h : (l.find? (·.1 == k)).map (·.2) = some v) : (k, v) ∈ l := by
  obtain ⟨x, hx, rfl⟩ := Option.map_eq_some_iff.mp h
  exact fst_of_find?_key hx ▸ mem_of_find?_eq_some hx

theorem find?_key_of_mem [BEq κ] [LawfulBEq κ] {l : List (κ × β)} (hnd : (l.map (·.1)).Nodup) {k : κ} {v : β}
    (h : (k, v) ∈ l) : (l.find? (·.1 == k)).map (·.2) = some v := by
  induction l with
  | nil => cases h
  | cons e l ih =>
    rw [map_cons, nodup_cons] at hnd
    rw [find?_cons]
    rcases mem_cons.mp h with rfl | h
    · simp
    · have : (e.1 == k) = false := by
        rw [beq_eq_false_iff_ne]; rintro rfl; exact hnd.1 (mem_map.mpr ⟨_, h, rfl⟩)
      rw [this]; exact ih hnd.2 h

/-- lookup after the dictionary assignment the models use (`odSet`, `NsMap.set`): the value of a key that is present is
replaced where it stands, a new key goes to the end -/
theorem find?_key_set [BEq κ] [LawfulBEq κ] [DecidableEq κ] (l : List (κ × β)) (k k' : κ) (v : β) :
    ((if l.any (·.1 == k) then l.map (fun e => if e.1 == k then (k, v) else e) else l ++ [(k, v)]).find? (·.1 == k')).map (·.2) =
      if k = k' then some v else (l.find? (·.1 == k')).map (·.2) := by
  split
  · rename_i hany
    -- the map does not change keys
    have hkey : ((·.1 == k') ∘ fun e : κ × β => if e.1 == k then (k, v) else e) = (·.1 == k') := by
      funext e; simp only [Function.comp]; split
      · rename_i h; rw [eq_of_beq h]
      · rfl
    rw [find?_map, hkey]
    by_cases hkk : k = k'
    · subst hkk
      obtain ⟨x, hx, hxk⟩ := any_eq_true.mp hany
      cases hf : l.find? (·.1 == k) with
      | none => exact absurd hxk (by simpa using find?_eq_none.mp hf x hx)
      | some y => simp [fst_of_find?_key hf]
    · rw [if_neg hkk]
      cases hf : l.find? (·.1 == k') with
      | none => rfl
      | some y =>
        have : y.1 ≠ k := by rw [fst_of_find?_key hf]; exact Ne.symm hkk
        simp [this]
  · rename_i hany
    rw [find?_append]
    by_cases hkk : k = k'
    · subst hkk
      have : l.find? (·.1 == k) = none := find?_eq_none.mpr fun x hx hxk => hany (any_eq_true.mpr ⟨x, hx, hxk⟩)
      simp [this]
    · cases l.find? (·.1 == k') <;> simp [hkk]

end List
