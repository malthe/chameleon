import ChamProofs.Inv
/-! # `econtext._root` is constant within a function

`RootKept m`: whether `m` completes normally or raises, the root dictionary of the scope (and whether the scope is a
copy) is what it was.  Only macro calls and slot fillers create scopes with another root, and they give the caller's
scope back. -/
namespace ChamVerif.Root
open ChamVerif StepRel

structure RootKept {α} (m : RM α) : Prop where
  at_ : ∀ s a s', m s = .ok a s' → rootOf s' = rootOf s
  err_ : ∀ s e s', m s = .raised e s' → rootOf s' = rootOf s

def rel : StepRel where
  R s s' := rootOf s' = rootOf s
  E s s' := rootOf s' = rootOf s
  refl _ := rfl
  reflE _ := rfl
  trans h₁ h₂ := h₂.trans h₁
  transE h₁ h₂ := h₂.trans h₁

theorem rootKept_iff {α} {m : RM α} : RootKept m ↔ rel.Tri m :=
  ⟨fun h => ⟨fun s => ⟨h.at_ s, h.err_ s⟩⟩, fun h => ⟨fun s => (h.at_ s).1, fun s => (h.at_ s).2⟩⟩

/-- only callees run with another root; every node keeps it -/
def inv (cfg : ECfg) : EvalInv cfg where
  toStepRel := rel
  H _ := True
  kids _ _ _ _ := trivial
  quiet h := ⟨h.2.1, h.2.1⟩
  emit := (Tri.streams (fun _ _ => rfl)).1
  bracket := Tri.bracket_of (fun _ _ => rfl)
  setting setF restoreF body k s _ hb hk := (Tri.setting_of (fun _ _ => rfl) setF restoreF body k hb hk).at_ s
  macroCall _ _ m _ := Tri.callee m _ _ _ (fun _ _ _ => rfl) (fun _ _ _ _ => rfl)
  fillerCall _ m _ := Tri.callee m _ _ _ (fun _ _ _ => rfl) (fun _ _ _ _ => rfl)
  handler _ _ _ _ key s ex sb s2 tm er hE ho := by
    simp only [onErrorHandle, Option.some.injEq] at ho
    subst ho
    exact hE

theorem rk_all (cfg : ECfg) : ∀ f,
    (∀ al node, RootKept (eval cfg al f node)) ∧
    (∀ al ns, RootKept (evalList cfg al f ns)) ∧
    (∀ al as node bk, RootKept (evalDefine cfg al f as node bk)) ∧
    (∀ al key names loc ws node items rem, RootKept (evalRepeat cfg al f key names loc ws node items rem)) := by
  intro f
  obtain ⟨hE, hL, hD, hR⟩ := (inv cfg).all f
  exact ⟨fun al n => rootKept_iff.2 (hE al n trivial), fun al ns => rootKept_iff.2 (hL al ns (fun _ _ => trivial)),
    fun al as n bk => rootKept_iff.2 (hD al as n bk trivial),
    fun al key names loc ws n items rem => rootKept_iff.2 (hR al key names loc ws n items rem trivial)⟩

end ChamVerif.Root
