import ChamVerif.Lex
import ChamVerif.Quirks
/-! # C11 — template errors carry the exact source location: the position algebra of `Token` -/
namespace ChamVerif

theorem anchored_def (src : Str) (t : Tok) : Anchored src t ↔ (src.drop t.pos).take t.str.length = t.str := Iff.rfl

def TextAt (src : Str) (pos : Nat) (s : Str) : Prop := (src.drop pos).take s.length = s

theorem textAt_iff_prefix {src : Str} {pos : Nat} {s : Str} : TextAt src pos s ↔ s <+: src.drop pos :=
  List.prefix_iff_eq_take.trans eq_comm |>.symm

/-- `Anchored src t` unfolds to `TextAt src t.pos t.str`: this is the one fact behind slice, strip and split below -/
theorem TextAt.sub {src : Str} {pos : Nat} {s x : Str} (h : TextAt src pos s) (a : Nat) (hx : x <+: s.drop a) :
    TextAt src (pos + a) x := by
  rw [textAt_iff_prefix] at h ⊢
  obtain ⟨t, ht⟩ := h
  rw [← List.drop_drop, ← ht, List.drop_append]
  exact hx.trans (List.prefix_append _ _)

/-- **C11 (slice)**: `token[a:b]` of an anchored token is anchored (at `pos + a`) -/
theorem anchored_slice (src : Str) (t : Tok) (a : Nat) (b : Option Nat) (h : Anchored src t) :
    Anchored src (t.slice a b) :=
  TextAt.sub h a (List.take_prefix _ _)

theorem Tok.slice_none (t : Tok) (a : Nat) : t.slice a none = { str := t.str.drop a, pos := t.pos + a } := by
  simp only [Tok.slice, List.take_of_length_le (Nat.le_of_eq List.length_drop)]

theorem Tok.slice_mid {s : Str} {pos a b : Nat} (pre mid post : Str) (hs : s = pre ++ (mid ++ post))
    (ha : a = pre.length) (hb : b = a + mid.length) :
    Tok.slice { str := s, pos := pos } a (some b) = { str := mid, pos := pos + a } := by
  subst hs ha hb; simp [Tok.slice]

theorem Tok.slice_from {s : Str} {pos a : Nat} (pre rest : Str) (hs : s = pre ++ rest) (ha : a = pre.length) :
    Tok.slice { str := s, pos := pos } a none = { str := rest, pos := pos + a } := by
  subst hs ha; rw [Tok.slice_none, List.drop_left]

/-- **C11 (lstrip)**: the position advances by exactly the number of stripped characters -/
theorem anchored_lstripBy (src : Str) (p : Nat → Bool) (t : Tok) (h : Anchored src t) : Anchored src (Tok.lstripBy p t) := by
  have hs := List.dropWhile_suffix (l := t.str) p
  have := TextAt.sub (x := t.str.dropWhile p) h (t.str.length - (t.str.dropWhile p).length)
    (by rw [← List.suffix_iff_eq_drop.mp hs]; exact List.prefix_rfl)
  rwa [← Nat.add_sub_assoc hs.length_le] at this

/-- **C11 (rstrip / strip)**: stripping on the right keeps the position -/
theorem anchored_rstripBy (src : Str) (p : Nat → Bool) (t : Tok) (h : Anchored src t) : Anchored src (Tok.rstripBy p t) :=
  TextAt.sub h 0 (by simpa [Tok.rstripBy] using List.reverse_prefix.mpr (List.dropWhile_suffix (l := t.str.reverse) p))

theorem anchored_stripBy (src : Str) (p : Nat → Bool) (t : Tok) (h : Anchored src t) : Anchored src (Tok.stripBy p t) :=
  anchored_rstripBy src p _ (anchored_lstripBy src p t h)

theorem splitOn1_eq (sep : Nat) (s : Str) : Tok.splitOn1 sep s = s.splitOn sep := by
  induction s with
  | nil => rfl
  | cons c cs ih =>
    rw [Tok.splitOn1, ih, List.splitOn_cons_eq_if_modifyHead]
    cases h : cs.splitOn sep with
    | nil => exact absurd h (List.splitOn_ne_nil sep cs)
    | cons p ps => by_cases hc : c = sep <;> simp [hc]

theorem anchored_parts (src : Str) (sep : Nat) : ∀ (ps : List Str) (pos : Nat), TextAt src pos ([sep].intercalate ps) →
    ∀ t ∈ Tok.splitParts 1 pos ps, Anchored src t
  | [], _, _, t, ht => by cases ht
  | [p], pos, h, t, ht => by
    rw [List.intercalate_singleton] at h
    simp only [Tok.splitParts, List.mem_singleton] at ht
    subst ht; exact h
  | p :: q :: rest, pos, h, t, ht => by
    rw [List.intercalate_cons_cons] at h
    rcases List.mem_cons.mp ht with rfl | ht
    · exact h.sub 0 (List.append_assoc .. ▸ List.prefix_append p _)
    · refine anchored_parts src sep (q :: rest) _ ?_ t ht
      simpa [Nat.add_assoc] using h.sub (x := [sep].intercalate (q :: rest)) (p.length + 1) (by simp)

/-- **C11 (split)**: with the separator counted (the behaviour of /repo after the D-11a fix), every part
of `Token.split(sep)` is the source slice at its position -/
theorem anchored_split_parts (src : Str) (sep : Nat) : ∀ (s : Str) (pos : Nat), TextAt src pos s →
    ∀ t ∈ Tok.splitParts 1 pos (Tok.splitOn1 sep s), Anchored src t := by
  intro s pos h
  rw [splitOn1_eq]
  exact anchored_parts src sep _ pos (by rwa [List.intercalate_splitOn])

theorem C11_split_anchored (src : Str) (sep : Nat) (t : Tok) (h : Anchored src t) :
    ∀ p ∈ Tok.split true sep t, Anchored src p := by
  intro p hp
  exact anchored_split_parts src sep t.str t.pos h p (by simpa [Tok.split] using hp)

/-- before the fix the separator was not counted: a concrete token after a `;` that is *not* anchored -/
theorem C11_split_counterexample_before_fix :
    ∃ p ∈ Tok.split false 59 { str := Str.ofString "a 1; b 2", pos := 0 }, ¬ Anchored (Str.ofString "a 1; b 2") p := by
  refine ⟨{ str := Str.ofString " b 2", pos := 3 }, by decide +kernel, by decide +kernel⟩

theorem C11_quirk_fixed : Quirks.current.splitIgnoresSep = false := rfl

/-- **C11 (line/column)**: the line is one more than the number of newlines before the token, the
column its distance from the last newline (or from the start) -/
theorem C11_location_line (src : Str) (t : Tok) : (Tok.location src t).1 = (src.take t.pos).count 10 + 1 := rfl

end ChamVerif
