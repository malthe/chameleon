import ChamVerif.Tal
import ChamProofs.Props.C11
import ChamProofs.ExceptLemmas
import ChamProofs.ListLemmas
/-! # C11 — the tokens of clause-parser errors are source slices

For a statement clause that is itself a slice of the source and needs none of the text surgery of `split_parts`
(no `;;` escape, no entity that gets an extra `;`, no NUL character) every error raised by `parse_defines`,
`parse_attributes` and `parse_substitution` carries a token that is again a slice of the source:
`source[offset : offset + len(token)] == token`.  The side condition `clauseSimple` is decidable (the code does not test
it; it delimits the theorem); clauses outside it are where the known findings D-11b/c live. -/
namespace ChamVerif

/-- `split_parts` has nothing to rewrite in this clause -/
def clauseSimple (rx : Rx) (q : Quirks) (arg : Tok) : Bool :=
  insertSemis rx (arg.str.length + 1) arg.str 0 == arg.str &&
  replaceAll [59, 59] [0] (arg.str.length + 1) arg.str == arg.str &&
  (Tok.split (!q.splitIgnoresSep) 59 arg).all (fun p => replaceAll [0] [59] (p.str.length + 1) p.str == p.str)

theorem splitParts_anchored (rx : Rx) (q : Quirks) (hq : q.splitIgnoresSep = false) (src : Str) (arg : Tok)
    (ha : Anchored src arg) (hs : clauseSimple rx q arg = true) : ∀ p ∈ splitParts rx q arg, Anchored src p := by
  unfold clauseSimple at hs
  simp only [Bool.and_eq_true, beq_iff_eq, List.all_eq_true, hq, Bool.not_false] at hs
  obtain ⟨⟨h1, h2⟩, h3⟩ := hs
  have hparts : (Tok.split true 59 arg).map (Tok.replace [0] [59]) = Tok.split true 59 arg := by
    refine List.map_eq_self fun p hp => ?_
    unfold Tok.replace
    rw [h3 p hp]
  have hall : ∀ p ∈ (Tok.split true 59 arg).map (Tok.replace [0] [59]), Anchored src p := by
    rw [hparts]; exact C11_split_anchored src 59 arg ha
  intro p hp
  unfold splitParts at hp
  simp only [hq, Bool.not_false, h1, Tok.replace, h2] at hp
  apply hall
  have harg : ({ str := arg.str, pos := arg.pos } : Tok) = arg := rfl
  rw [harg] at hp
  split at hp
  · split at hp
    · exact List.dropLast_subset _ hp
    · exact hp
  · exact hp

theorem parseDefines_error_mem (rx : Rx) (q : Quirks) (clause : Tok) (cls msg : String) (tok : Tok)
    (h : parseDefines rx q clause = .error (.template cls msg tok)) : tok ∈ splitParts rx q clause := by
  obtain ⟨part, hpart, hf⟩ := mapM_error _ _ _ h
  split at hf <;> cases hf
  exact hpart

theorem parseAttributes_error_mem (rx : Rx) (q : Quirks) (clause : Tok) (cls msg : String) (tok : Tok)
    (h : parseAttributes rx q clause = .error (.template cls msg tok)) : tok ∈ splitParts rx q clause := by
  obtain h | ⟨_, _, h⟩ := Except.bind_eq_error.mp h
  · obtain ⟨acc, part, hpart, hf⟩ := foldlM_error _ _ _ _ h
    simp only at hf
    split at hf <;> split at hf <;> cases hf <;> exact hpart
  · cases h

/-- **C11 (`tal:define` / `tal:repeat` clauses)** -/
theorem C11_defines_error_anchored (rx : Rx) (q : Quirks) (hq : q.splitIgnoresSep = false) (src : Str) (clause : Tok)
    (ha : Anchored src clause) (hs : clauseSimple rx q clause = true) (cls msg : String) (tok : Tok)
    (h : parseDefines rx q clause = .error (.template cls msg tok)) : Anchored src tok :=
  splitParts_anchored rx q hq src clause ha hs tok (parseDefines_error_mem rx q clause cls msg tok h)

/-- **C11 (`tal:attributes` clauses)** -/
theorem C11_attributes_error_anchored (rx : Rx) (q : Quirks) (hq : q.splitIgnoresSep = false) (src : Str) (clause : Tok)
    (ha : Anchored src clause) (hs : clauseSimple rx q clause = true) (cls msg : String) (tok : Tok)
    (h : parseAttributes rx q clause = .error (.template cls msg tok)) : Anchored src tok :=
  splitParts_anchored rx q hq src clause ha hs tok (parseAttributes_error_mem rx q clause cls msg tok h)

/-- **C11 (`tal:content` / `tal:replace` / `tal:on-error` clauses)**: the token is the clause itself -/
theorem C11_substitution_error_anchored (rx : Rx) (src : Str) (clause : Tok) (ha : Anchored src clause)
    (cls msg : String) (tok : Tok) (h : parseSubstitution rx clause = .error (.template cls msg tok)) :
    Anchored src tok := by
  unfold parseSubstitution at h
  split at h <;> cases h
  exact ha

/-- the side condition holds for an ordinary clause, and the error case is reached: in `a 1; 2b x` (at offset 20 of
its template) the part ` 2b x` is rejected and reported at offset 24 -/
example : clauseSimple Rx.live Quirks.current { str := lit "a 1; 2b x", pos := 20 } = true ∧
    (match parseDefines Rx.live Quirks.current { str := lit "a 1; 2b x", pos := 20 } with
      | .error (.template _ _ t) => t.pos == 24 && t.str == lit " 2b x"
      | _ => false) = true := by decide +kernel

end ChamVerif
