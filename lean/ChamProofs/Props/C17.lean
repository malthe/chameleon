import ChamVerif.Sniff
/-! # C17 — byte input is decoded by BOM / XML declaration / meta charset, then acts as str

`readBytes` is parametric in the decoder: the theorems hold for *any* codec implementation. -/
namespace ChamVerif

def PrefixRow.fires (row : PrefixRow) (body : Bytes) : Bool :=
  row.bom.isPrefixOf body || (row.xmlPrefix != asciiXmlDecl && row.xmlPrefix.isPrefixOf body)

theorem sniffRows_skip (c : SniffCfg) (dec : String → Bytes → DecRes) (body : Bytes) :
    ∀ (pre rest : List PrefixRow), (∀ r ∈ pre, r.fires body = false) →
      sniffRows c dec body (pre ++ rest) = sniffRows c dec body rest := by
  intro pre
  induction pre with
  | nil => intro rest _; rfl
  | cons row pre ih =>
    intro rest h
    have hr := h row (List.mem_cons_self ..)
    simp only [PrefixRow.fires, Bool.or_eq_false_iff] at hr
    simp only [List.cons_append]
    rw [sniffRows]
    simp only [hr.1, hr.2, Bool.false_eq_true, if_false]
    exact ih rest (fun r hr' => h r (List.mem_cons_of_mem _ hr'))

theorem sniffRows_none (c : SniffCfg) (dec : String → Bytes → DecRes) (body : Bytes) (rows : List PrefixRow)
    (h : ∀ r ∈ rows, r.fires body = false) : sniffRows c dec body rows = none := by
  simpa [sniffRows] using sniffRows_skip c dec body rows [] h

/-- **C17 (byte-order mark first; no decoding artefact)**: when the first row of the table that fires does so by its
byte-order mark, the document is the decoding — with that row's codec — of the body *without the mark* (so no codec
can turn the mark into U+FEFF), the reported encoding is that codec and the document is XML iff it starts with `<?xml`.
For every decoder, table and body. -/
theorem C17_bom_first (c : SniffCfg) (dec : String → Bytes → DecRes) (body : Bytes) (pre post : List PrefixRow) (row : PrefixRow)
    (hrows : c.rows = pre ++ row :: post) (hpre : ∀ r ∈ pre, r.fires body = false) (hbom : row.bom.isPrefixOf body = true)
    (hfix : c.bomSliced = true) :
    readBytes c dec body = finishDecode dec (Str.ofString row.codec) (body.drop row.bom.length)
      (fun doc => if isXmlDoc doc then some xmlCT else none) := by
  unfold readBytes
  rw [hrows, sniffRows_skip c dec body pre _ hpre]
  unfold sniffRows
  simp [hbom, hfix]

/-- a UTF-16/32 document without mark is recognised by its encoded `<?xml` -/
theorem C17_encoded_decl (c : SniffCfg) (dec : String → Bytes → DecRes) (body : Bytes) (pre post : List PrefixRow) (row : PrefixRow)
    (hrows : c.rows = pre ++ row :: post) (hpre : ∀ r ∈ pre, r.fires body = false) (hbom : row.bom.isPrefixOf body = false)
    (hx : (row.xmlPrefix != asciiXmlDecl && row.xmlPrefix.isPrefixOf body) = true) :
    readBytes c dec body = finishDecode dec (Str.ofString row.codec) body (fun _ => some xmlCT) := by
  unfold readBytes
  rw [hrows, sniffRows_skip c dec body pre _ hpre]
  unfold sniffRows
  simp only [hbom, Bool.false_eq_true, if_false, hx, if_true]

/-- **C17 (then the XML declaration, then the meta element, then the default)**: when no row of the table fires, a body that
starts with `<?xml` is XML and decoded with the declared encoding (default when none is declared); any other body
is decoded with the charset of its `<meta http-equiv="Content-Type">` element, if there is one, else the default —
the later sources are consulted only when the earlier ones are absent. -/
theorem C17_priority (c : SniffCfg) (dec : String → Bytes → DecRes) (body : Bytes)
    (hnone : ∀ r ∈ c.rows, r.fires body = false) :
    readBytes c dec body =
      if asciiXmlDecl.isPrefixOf body then
        finishDecode dec ((readXmlEncoding c body).getD (Str.ofString c.defaultEncoding)) body (fun _ => some xmlCT)
      else finishDecode dec (detectEncoding c (body.filter (· < 128))).2 body
            (fun _ => (detectEncoding c (body.filter (· < 128))).1) := by
  unfold readBytes
  rw [sniffRows_none c dec body c.rows hnone]

theorem C17_default_when_no_meta (c : SniffCfg) (text : List Nat) (h : search Gen.uni text.toArray c.reMeta = none) :
    detectEncoding c text = (none, Str.ofString c.defaultEncoding) := by
  unfold detectEncoding
  rw [h]

def triggers (r : PrefixRow) : List Bytes := [r.bom] ++ (if r.xmlPrefix != asciiXmlDecl then [r.xmlPrefix] else [])

/-- no trigger (mark or encoded declaration) of an earlier row is a proper prefix of a trigger of a later row: a
longer, more specific trigger is never shadowed (UTF-32-LE `FF FE 00 00` is listed before UTF-16-LE `FF FE`) -/
def orderSound : List PrefixRow → Bool
  | [] => true
  | r :: rest => rest.all (fun later => (triggers r).all (fun t => (triggers later).all (fun t' =>
      !(t.isPrefixOf t' && t.length < t'.length)))) && orderSound rest

theorem C17_table_order_sound : orderSound SniffCfg.live.rows = true := by decide +kernel

/-- every row's codec name is one the executable decoder implements, and the table has its seven rows -/
theorem C17_table_codecs_known :
    SniffCfg.live.rows.all (fun r => stdDecode r.codec [] != .unknown) = true ∧ SniffCfg.live.rows.length = 7 := by
  decide +kernel

/-- the fix is in force in /repo (probed on every run by the translator) -/
theorem C17_bom_sliced_live : SniffCfg.live.bomSliced = true := by decide +kernel

/-- D-17a, before the fix: the UTF-16-BE mark became U+FEFF at the head of the document (and hid `<?xml`) -/
theorem C17_bom_counterexample :
    readBytes { SniffCfg.live with bomSliced := false } stdDecode [254, 255, 0, 60] =
      .ok [0xFEFF, 60] (lit "utf-16-be") none ∧
    readBytes SniffCfg.live stdDecode [254, 255, 0, 60] = .ok [60] (lit "utf-16-be") none := by
  decide +kernel

/-- **C17 (then it acts as str)**: rendering a byte body is rendering the decoded document as `str`, provided the two
paths reach the same XML/HTML decision -/
theorem C17_bytes_eq_str (c : SniffCfg) (dec : String → Bytes → DecRes) (r : RenderReq) (body : Bytes) (doc enc : Str)
    (ct : Option Str) (h : readBytes c dec body = .ok doc enc ct)
    (hmode : isXmlCT ct = isXmlCT (strContentType c doc)) :
    renderBytes c dec r body = renderStr c { r with src := doc } := by
  unfold renderBytes renderStr
  rw [h]
  simp only [hmode]

/-- in the byte-order-mark branch the decisions agree unless a document *without* `<?xml` carries a
`<meta … content="text/xml; …">` (D-17c: the str path then switches to XML mode) -/
theorem C17_mode_agrees_bom (c : SniffCfg) (doc : Str)
    (h : isXmlDoc doc = true ∨ (detectEncoding c doc).1 ≠ some xmlCT) :
    isXmlCT (if isXmlDoc doc then some xmlCT else none) = isXmlCT (strContentType c doc) := by
  unfold strContentType isXmlCT
  by_cases hx : isXmlDoc doc = true
  · simp [hx]
  · simp only [hx, Bool.false_eq_true, if_false]
    rcases h with h | h
    · exact absurd h hx
    · simp [h]

/-- UTF-8 is transparent on ASCII: an ASCII prefix decodes to itself -/
theorem decodeUtf8_ascii_prefix : ∀ (a : Bytes) (rest : Bytes), (∀ b ∈ a, b < 128) →
    decodeUtf8 (a ++ rest) = (decodeUtf8 rest).map (a ++ ·) := by
  intro a
  induction a with
  | nil => intro rest _; simp
  | cons b a ih =>
    intro rest h
    have hb : b < 128 := h b (List.mem_cons_self ..)
    simp only [List.cons_append]
    conv => lhs; unfold decodeUtf8
    simp only [hb, if_true]
    rw [ih rest (fun x hx => h x (List.mem_cons_of_mem _ hx))]
    cases decodeUtf8 rest <;> simp

/-- so a UTF-8 body that starts with the bytes `<?xml` decodes to a document that starts with `<?xml`: the byte test of
`read_bytes` and the character test of the str path agree -/
theorem C17_utf8_decl_agrees (body : Bytes) (doc : Str) (hb : asciiXmlDecl.isPrefixOf body = true)
    (hd : decodeUtf8 body = some doc) : isXmlDoc doc = true := by
  obtain ⟨rest, rfl⟩ := List.isPrefixOf_iff_prefix.mp hb
  rw [decodeUtf8_ascii_prefix asciiXmlDecl rest (by decide)] at hd
  cases hr : decodeUtf8 rest with
  | none => simp [hr] at hd
  | some d =>
    simp only [hr, Option.map_some, Option.some.injEq] at hd
    subst hd
    simp only [isXmlDoc, startsWith, asciiXmlDecl]
    exact List.isPrefixOf_iff_prefix.mpr ⟨d, rfl⟩

end ChamVerif
