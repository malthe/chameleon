import ChamVerif.Sys.Sched
import ChamProofs.ListLemmas
/-! # C14 — thread safety of the lazily compiling render (the determinism/purity clauses are tied to the pure
`Pipeline.render` by correspondence and judged by the oracle) -/
namespace ChamVerif.Sys.Sched

theorem lookup_setFn_same (fns : List (String × Nat)) (n : String) (v : Nat) : lookup (setFn fns n v) n = some v := by
  simp [lookup, setFn]

theorem lookup_setFn_ne (fns : List (String × Nat)) (n m : String) (v : Nat) (h : m ≠ n) :
    lookup (setFn fns n v) m = lookup fns m := by
  unfold lookup setFn; rw [List.find?_key_cons_filter_ne h]

theorem lookup_filter_keep (fns : List (String × Nat)) (names : List String) (m : String) (h : names.contains m = true) :
    lookup (fns.filter (fun f => names.contains f.1)) m = lookup fns m := by
  unfold lookup
  rw [List.find?_filter_of_imp fun a ha => by rw [eq_of_beq ha]; exact h]

def Installed (c : Cfg) (s : Shared) (n : String) : Prop := lookup s.fns n = some c.version

/-- what a thread has established, by its program counter -/
def ThreadOK (c : Cfg) (s : Shared) : PC → Prop
  | .install i => ∀ j, j < i → ∀ n, c.names[j]? = some n → Installed c s n
  | .clean | .setCooked => ∀ n ∈ c.names, Installed c s n
  | .call => ∀ n ∈ c.names, Installed c s n
  | .done r => "render" ∈ c.names → r = some c.version
  | _ => True

/-- the invariant of every reachable state: the flag is set only when every function of the version is installed, and
every thread's local knowledge is true of the shared state -/
structure Inv (c : Cfg) (w : World) : Prop where
  flag : w.shared.cooked = true → ∀ n ∈ c.names, Installed c w.shared n
  threads : ∀ pc ∈ w.threads, ThreadOK c w.shared pc

theorem installed_stable (c : Cfg) (s : Shared) (pc : PC) (n : String) (hn : n ∈ c.names) (h : Installed c s n) :
    Installed c (stepThread c s pc).1 n := by
  unfold Installed at h ⊢
  cases pc with
  | start | testCooked => simp only [stepThread]; split <;> exact h
  | setLast | clearCooked | setCooked | call | done r => exact h
  | install i =>
    simp only [stepThread]
    cases hi : c.names[i]? with
    | none => exact h
    | some m =>
      simp only
      by_cases hm : n = m
      · subst hm; exact lookup_setFn_same _ _ _
      · rw [lookup_setFn_ne _ _ _ _ hm]; exact h
  | clean =>
    simp only [stepThread]
    rw [lookup_filter_keep _ _ _ (by simpa using hn)]
    exact h

theorem threadOK_stable (c : Cfg) (s : Shared) (pc other : PC) (h : ThreadOK c s other) :
    ThreadOK c (stepThread c s pc).1 other := by
  cases other with
  | install i =>
    intro j hj n hn
    exact installed_stable c s pc n (List.mem_of_getElem? hn) (h j hj n hn)
  | clean | setCooked | call => intro n hn; exact installed_stable c s pc n hn (h n hn)
  | done r => exact h
  | start | setLast | clearCooked | testCooked => trivial

theorem threadOK_self (c : Cfg) (s : Shared) (pc : PC) (hflag : s.cooked = true → ∀ n ∈ c.names, Installed c s n)
    (h : ThreadOK c s pc) : ThreadOK c (stepThread c s pc).1 (stepThread c s pc).2 := by
  cases pc with
  | start => simp only [stepThread]; split <;> trivial
  | setLast | clearCooked => trivial
  | testCooked =>
    simp only [stepThread]
    cases hc : s.cooked
    · simp only [Bool.false_eq_true, if_false]; intro j hj; omega
    · simp only [if_true]; exact hflag hc
  | install i =>
    simp only [stepThread]
    cases hi : c.names[i]? with
    | none =>
      simp only
      intro n hn
      obtain ⟨j, hj, hjn⟩ := List.getElem_of_mem hn
      have hlen : c.names.length ≤ i := List.getElem?_eq_none_iff.mp hi
      have hji : j < i := by omega
      exact h j hji n (by simp [List.getElem?_eq_getElem hj, hjn])
    | some m =>
      simp only
      intro j hj n hn
      by_cases hji : j < i
      · have := installed_stable c s (.install i) n (List.mem_of_getElem? hn) (h j hji n hn)
        simpa [stepThread, hi] using this
      · have hje : j = i := by omega
        subst hje
        rw [hi] at hn
        cases hn
        exact lookup_setFn_same _ _ _
  | clean =>
    intro n hn
    exact installed_stable c s .clean n hn (h n hn)
  | setCooked => intro n hn; exact h n hn
  | call =>
    intro hr
    exact h "render" hr
  | done r => exact h

theorem cooked_of_step (c : Cfg) (s : Shared) (pc : PC) (h : (stepThread c s pc).1.cooked = true) :
    pc = .setCooked ∨ s.cooked = true := by
  cases pc with
  | setCooked => exact Or.inl rfl
  | clearCooked => cases h
  | start | testCooked | install i => simp only [stepThread] at h; split at h <;> exact Or.inr h
  | setLast | clean | call | done r => exact Or.inr h

theorem inv_step (c : Cfg) (w : World) (i : Nat) (hi : Inv c w) : Inv c (step c w i) := by
  unfold step
  cases hp : w.threads[i]? with
  | none => exact hi
  | some pc =>
    have hpc : pc ∈ w.threads := List.mem_of_getElem? hp
    have hok := hi.threads pc hpc
    refine ⟨fun hc n hn => ?_, fun q hq => ?_⟩
    · -- the flag is set by this step (then the thread has installed everything) or was set before
      rcases cooked_of_step c w.shared pc hc with rfl | hc'
      · exact hok n hn
      · exact installed_stable c w.shared pc n hn (hi.flag hc' n hn)
    · rcases List.mem_or_eq_of_mem_set hq with hq' | rfl
      · exact threadOK_stable c w.shared pc q (hi.threads q hq')
      · exact threadOK_self c w.shared pc hi.flag hok

theorem inv_run (c : Cfg) : ∀ (sched : List Nat) (w : World), Inv c w → Inv c (run c w sched) :=
  fun sched _ h => List.foldlRecOn sched (step c) h fun w hw i _ => inv_step c w i hw

/-- **C14 (concurrent renders on a shared, lazily compiling template)**: any number of threads, any schedule (no bound on
either): the `_cooked` flag is never observed set before every function of the template is installed, and every
thread that finishes has run the `_render` of the file's version — what it would have returned alone. -/
theorem C14_thread_result (c : Cfg) (n : Nat) (sched : List Nat) (hr : "render" ∈ c.names) :
    let w := run c { shared := {}, threads := List.replicate n .start } sched
    (w.shared.cooked = true → ∀ f ∈ c.names, Installed c w.shared f) ∧
    ∀ r, PC.done r ∈ w.threads → r = some c.version := by
  intro w
  have h0 : Inv c { shared := {}, threads := List.replicate n .start } :=
    ⟨fun h => by simp at h, fun pc hpc => by rw [List.eq_of_mem_replicate hpc]; trivial⟩
  have h := inv_run c sched _ h0
  exact ⟨h.flag, fun r hr' => h.threads _ hr' hr⟩

/-- progress: a thread that is scheduled often enough finishes (here: alone, within `names.length + 8` steps) -/
theorem C14_solo_finishes :
    let c : Cfg := { autoReload := true, mtime := 5, version := 3, names := ["render", "render_a"] }
    (run c { shared := {}, threads := [.start] } (List.replicate 10 0)).threads = [.done (some 3)] := by
  decide +kernel

/-- why the flag must be set last: a variant that sets `_cooked` before installing lets another thread call a
missing function.  (A hypothetical reordering, not one of the findings in /repo; witness on the variant's step function,
decided by evaluation.) -/
def badStep (c : Cfg) (s : Shared) : PC → Shared × PC
  | .testCooked => if s.cooked then (s, .call) else ({ s with cooked := true }, .install 0)
  | .setCooked => (s, .call)
  | pc => stepThread c s pc

theorem C14_flag_first_counterexample :
    let c : Cfg := { autoReload := false, mtime := 5, version := 3, names := ["render"] }
    let stepB (w : World) (i : Nat) : World := match w.threads[i]? with
      | none => w
      | some pc => let (s', pc') := badStep c w.shared pc; { shared := s', threads := w.threads.set i pc' }
    ([0, 0, 1, 1, 1] : List Nat).foldl stepB { shared := {}, threads := [.start, .start] } =
      { shared := { cooked := true }, threads := [.install 0, .done none] } := by
  decide +kernel

end ChamVerif.Sys.Sched
