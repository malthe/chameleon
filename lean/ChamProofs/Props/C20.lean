import ChamVerif.Pipeline
/-! # C20 — text-mode templates copy their source verbatim except for `${…}` and `$$`

A text-mode source is one text token, so its program is the one node `visitText` makes of it (`buildProgram_text`).
`render_ok` says what `render` answers once the builder, the compile pass and the evaluator have each been followed
through; the C20 theorems of this file and of `C20Expr` are its two instances. -/
namespace ChamVerif

theorem visitText_plain (c : BCfg) (t : Tok) (s : BState) (hi : c.implicitI18nTranslate = false)
    (hn : hasInterp t.str = false) :
    visitText c t s = .ok (.text (undoubleDollar t.str), { s with last := some t.str }) := by
  simp only [visitText, bind, bModify, bGet, pure, hn, hi, Bool.and_false, Bool.false_eq_true, if_false, Bool.not_false,
    if_true]

theorem visitText_interp (c : BCfg) (t : Tok) (s : BState) (hs : s.interpolation.headD true = true)
    (hn : hasInterp t.str = true) :
    visitText c t s = .ok (.interpolation (.interp t (if c.escape then .text else .none) none true true
      c.implicitI18nTranslate), { s with last := some t.str }) := by
  simp only [visitText, bind, bModify, bGet, pure, hn, hs, Bool.and_self, if_true]

/-- in text mode nothing is parsed (the behaviour of /repo after the D-20a fix: `textModeIdentify = false`): the program
is what `visitText` makes of the whole source -/
theorem buildProgram_text (c : BCfg) (src : Str) (hq : c.q.textModeIdentify = false) :
    buildProgram c true src =
      (visitText c { str := src, pos := 0 } { switches := [], useMacro := [], interpolation := [true], macros := [],
                                              last := some [], whitespace := [10], nextId := 1 }).map
        (fun p => (Node.seq [p.1], p.2.macros)) := by
  unfold buildProgram
  simp only [if_true, hq, Bool.not_false, Bool.and_self, iterText, List.map_cons, List.map_nil, bind, Except.bind, pure,
    Except.pure, visitItems, visitItem, BEq.rfl]
  cases visitText c { str := src, pos := 0 } _ <;> rfl

/-- **C20 (verbatim)**: a text-mode source without `${` compiles to a single text node holding the
source with `$$` collapsed — `<`, `&`, tags and anything resembling template attributes are ordinary
characters (the behaviour of /repo after the D-20a fix: `textModeIdentify = false`). -/
theorem C20_build_verbatim (c : BCfg) (src : Str) (hq : c.q.textModeIdentify = false)
    (hi : c.implicitI18nTranslate = false) (hn : hasInterp src = false) :
    buildProgram c true src = .ok (.seq [.text (undoubleDollar src)], []) := by
  rw [buildProgram_text c src hq, visitText_plain c _ _ hi hn]; rfl

theorem checkNode_text (tc : TCfg) (strict : Bool) (s : Str) (f : Nat) (tr : List (List Str)) :
    checkNode tc strict (f + 1) tr (.text s) = .ok tr := by
  rw [checkNode]; rfl

theorem checkNode_interpolation (tc : TCfg) (strict : Bool) (e : EN) (f : Nat) (tr : List (List Str))
    (h : compileEN tc strict 16 e = .ok ()) : checkNode tc strict (f + 1) tr (.interpolation e) = .ok tr := by
  rw [checkNode]
  simp only [h, bind, Except.bind, pure, Except.pure]

-- `.seq` and the list cell take one unit of fuel each: `n` is looked at with `f + 1`
theorem checkNode_seq1 (tc : TCfg) (strict : Bool) (n : Node) (f : Nat) (tr : List (List Str))
    (h : checkNode tc strict (f + 1) tr n = .ok tr) : checkNode tc strict (f + 3) tr (.seq [n]) = .ok tr := by
  rw [checkNode, checkNodes]
  simp only [h, bind, Except.bind, checkNodes, pure, Except.pure]

-- `compileCheck` is unfolded on its own: with `checkNode` in the same simp set the fold over the macros, whose nodes are
-- variables, is unfolded three levels deep in every branch
theorem compileCheck_seq1 (tc : TCfg) (strict : Bool) (n : Node) (f : Nat)
    (h : checkNode tc strict (f + 1) [] n = .ok []) : compileCheck tc strict (f + 3) [] (.seq [n]) = .ok () := by
  unfold compileCheck
  simp only [List.foldlM_nil, bind, Except.bind, pure, Except.pure, checkNode_seq1 tc strict n f [] h]

/-- … and rendering that node emits exactly that text: no escaping, nothing evaluated -/
theorem C20_eval_text (cfg : ECfg) (al : List (Str × Val)) (s : Str) (f : Nat) (st : RState) (top : Str) (rest : List Str)
    (hs : st.streams = top :: rest) :
    eval cfg al (f + 3) (.seq [.text s]) st = .ok () { st with streams := (top ++ s) :: rest } := by
  simp [eval, evalList, emit, mModify, hs, bind, pure]

/-- the text a text-mode template is compiled from: its source, with CR / CRLF normalised to LF unless it begins with an XML
declaration (the content type is sniffed from the source whatever the template class, and `text/xml` keeps its line ends) -/
def textBody (r : RenderReq) : Str := if r.xmlMode.getD (isXmlDoc r.src) then r.src else normalizeNewlines r.src

/-- the configuration, scope and state `render` evaluates the program in -/
def tcOf (r : RenderReq) : TCfg := { rx := r.bcfg.rx, q := r.bcfg.q, oracle := r.oracle, decodeInterp := !r.textMode }

def cfgOf (r : RenderReq) (booleans : List Str) (node : Node) : ECfg :=
  { tc := tcOf r, tab := r.tab, pyBuiltins := r.pyBuiltins, talesExc := r.talesExc, existsExc := r.existsExc, excParents := r.excParents,
    booleanAttrs := booleans, src := textBody r, macros := [], body := node, libs := [] }

def env0Of (r : RenderReq) : Env :=
  { own := r.vars ++ [(lit "repeat", .repeatDict), (lit "target_language", .none)], root := [], rcontext := [], repeats := [], frames := [{}] }

/-- `render` followed through its three phases, for a template without macros and libraries that the builder and the
compile pass accept and whose evaluation completes: the output is the outermost stream, with the logs of the final state.
(The boolean attributes `render` works out are left open: `b`.) -/
theorem render_ok (r : RenderReq) (hl : r.libs = []) (node : Node) (s : RState)
    (hb : ∀ b, buildProgram { r.bcfg with booleanAttrs := b, escape := !r.textMode } r.textMode (textBody r) = .ok (node, []))
    (hc : compileCheck (tcOf r) r.strict (8 * (textBody r).length + 64) [] node = .ok ())
    (he : ∀ b, eval (cfgOf r b node) [] (8 * (textBody r).length + 64) node
      { streams := [[]], env := env0Of r, x := {}, handled := 0 } = .ok () s) :
    render r = .out (s.streams.getLast?.getD []) s.x.log s.x.tlog s.handled := by
  -- the hypotheses in the unfolded form `render` has them in, for the `simp only` below to match
  have hbody : (if r.xmlMode.getD (isXmlDoc r.src) = true then r.src else normalizeNewlines r.src) = textBody r := rfl
  have hc' : compileCheck { rx := r.bcfg.rx, q := r.bcfg.q, oracle := r.oracle, decodeInterp := !r.textMode } r.strict
      (8 * (textBody r).length + 64) [] node = .ok () := hc
  unfold render
  simp only [hbody, hb, hc', hl, List.foldlM_nil, pure, Except.pure]
  simp only [cfgOf, tcOf, env0Of] at he
  simp only [he]

/-- **C20 on the whole render function**: a text-mode template whose source holds no `${` renders as its source
(`textBody`: newlines normalised unless it begins with an XML declaration; `$$` → `$`): whatever `<`, `&`, quotes, tag-like or
`tal:`-like text it contains. -/
theorem C20_render_verbatim (r : RenderReq) (ht : r.textMode = true) (hq : r.bcfg.q.textModeIdentify = false)
    (hi : r.bcfg.implicitI18nTranslate = false) (hn : hasInterp (textBody r) = false) (hl : r.libs = []) :
    render r = .out (undoubleDollar (textBody r)) #[] #[] 0 := by
  rw [render_ok r hl (.seq [.text (undoubleDollar (textBody r))]) _
    (fun b => by rw [ht]; exact C20_build_verbatim _ _ hq hi hn)
    (compileCheck_seq1 _ _ _ _ (checkNode_text _ _ _ _ _))
    (fun b => C20_eval_text _ _ _ _ _ [] [] rfl)]
  rfl
end ChamVerif
