import ChamVerif.Sys.Cache
import ChamVerif.Gen.Tables
import ChamProofs.ListLemmas
/-! # C15 — the on-disk module cache is sound and crash-safe -/
namespace ChamVerif.Sys.Cache

theorem get_del_same (fs : FS) (n : String) : (fs.del n).get n = none := by
  unfold FS.get FS.del; rw [List.find?_key_filter_self]; rfl

theorem get_del_ne (fs : FS) (n n' : String) (hne : n' ≠ n) : (fs.del n).get n' = fs.get n' := by
  unfold FS.get FS.del; rw [List.find?_key_filter_ne hne]

theorem get_set_same (fs : FS) (n : String) (c : Content) : (fs.set n c).get n = some c := by
  simp [FS.set, FS.get]

theorem get_set_ne (fs : FS) (n n' : String) (c : Content) (hne : n' ≠ n) : (fs.set n c).get n' = fs.get n' := by
  unfold FS.get FS.set FS.del; rw [List.find?_key_cons_filter_ne hne]

/-- what a writer's temporary file holds, as a function of how far the writer got -/
def TmpOK (fs : FS) (w : Writer) : Prop :=
  match w.pc with
  | 1 => fs.get w.tmp = some .empty
  | 2 => fs.get w.tmp = some .header
  | 3 => fs.get w.tmp = some (.torn w.src)
  | 4 => fs.get w.tmp = some (.full w.src)
  | 5 => fs.get w.tmp = some (.full w.src)
  | _ => True

def EntryOK (entry : String) (init : Option Content) (s : St) : Prop :=
  s.fs.get entry = init ∨ s.fs.get entry = some (.full s.a.src) ∨ s.fs.get entry = some (.full s.b.src)

structure Inv (entry : String) (init : Option Content) (s : St) : Prop where
  entryOK : EntryOK entry init s
  tmpA : TmpOK s.fs s.a
  tmpB : TmpOK s.fs s.b

/-- the hypotheses on names: `mkstemp` hands out names that are unique and never the entry's -/
structure Names (entry : String) (s : St) : Prop where
  distinct : s.a.tmp ≠ s.b.tmp
  aNotEntry : s.a.tmp ≠ entry
  bNotEntry : s.b.tmp ≠ entry

theorem tmpOK_other (entry : String) (fs : FS) (w o : Writer) (hne : o.tmp ≠ w.tmp) (hoe : o.tmp ≠ entry) (ho : TmpOK fs o) :
    TmpOK (stepWriter entry fs w).1 o := by
  have key : (stepWriter entry fs w).1.get o.tmp = fs.get o.tmp := by
    unfold stepWriter
    split
    · rfl
    · split
      -- 0–3 write to the writer's own temporary file
      iterate 4 exact get_set_ne _ _ _ _ hne
      · rfl
      · split
        · rw [get_set_ne _ _ _ _ hoe, get_del_ne _ _ _ hne]
        · rfl
      · rfl
  unfold TmpOK at ho ⊢
  rw [key]; exact ho

theorem tmpOK_self (entry : String) (fs : FS) (w : Writer) (hw : TmpOK fs w) :
    TmpOK (stepWriter entry fs w).1 (stepWriter entry fs w).2 := by
  obtain ⟨src, tmp, pc, alive⟩ := w
  cases alive
  · simpa [stepWriter] using hw
  · rcases pc with _|_|_|_|_|_|pc
    -- 0–3: the temporary file holds what was just written to it
    iterate 4 simp [stepWriter, TmpOK, get_set_same]
    · simpa [stepWriter, TmpOK] using hw
    · simp only [stepWriter, Bool.not_true, Bool.false_eq_true, if_false]
      cases hg : fs.get tmp with
      | none => simp [TmpOK, hg] at hw
      | some c => simp [TmpOK]
    · simp [stepWriter, TmpOK]

theorem entry_after_step (entry : String) (fs : FS) (w : Writer) (hwe : w.tmp ≠ entry) (hw : TmpOK fs w) :
    (stepWriter entry fs w).1.get entry = fs.get entry ∨ (stepWriter entry fs w).1.get entry = some (.full w.src) := by
  have hne : entry ≠ w.tmp := fun e => hwe e.symm
  unfold stepWriter
  split
  · exact Or.inl rfl
  · split
    iterate 4 exact Or.inl (get_set_ne _ _ _ _ hne)
    · exact Or.inl rfl
    · rename_i h5
      split
      · rename_i c hc
        simp only [TmpOK, h5] at hw
        rw [hw] at hc
        cases hc
        exact Or.inr (get_set_same _ _ _)
      · exact Or.inl rfl
    · exact Or.inl rfl

theorem src_tmp_const (entry : String) (fs : FS) (w : Writer) :
    (stepWriter entry fs w).2.src = w.src ∧ (stepWriter entry fs w).2.tmp = w.tmp := by
  unfold stepWriter
  split
  · exact ⟨rfl, rfl⟩
  · split <;> try exact ⟨rfl, rfl⟩
    split <;> exact ⟨rfl, rfl⟩

theorem Inv.swap {entry : String} {init : Option Content} {fs : FS} {a b : Writer} (h : Inv entry init ⟨fs, a, b⟩) :
    Inv entry init ⟨fs, b, a⟩ :=
  ⟨h.entryOK.imp_right Or.symm, h.tmpB, h.tmpA⟩

theorem Names.swap {entry : String} {fs : FS} {a b : Writer} (h : Names entry ⟨fs, a, b⟩) : Names entry ⟨fs, b, a⟩ :=
  ⟨h.distinct.symm, h.bNotEntry, h.aNotEntry⟩

theorem inv_stepA (entry : String) (init : Option Content) (s : St) (hn : Names entry s) (hi : Inv entry init s) :
    Inv entry init (step entry s .stepA) ∧ Names entry (step entry s .stepA) := by
  obtain ⟨hsrc, htmp⟩ := src_tmp_const entry s.fs s.a
  refine ⟨⟨?_, tmpOK_self entry s.fs s.a hi.tmpA,
      tmpOK_other entry s.fs s.a s.b hn.distinct.symm hn.bNotEntry hi.tmpB⟩,
    ⟨htmp ▸ hn.distinct, htmp ▸ hn.aNotEntry, hn.bNotEntry⟩⟩
  show EntryOK entry init ⟨(stepWriter entry s.fs s.a).1, (stepWriter entry s.fs s.a).2, s.b⟩
  unfold EntryOK
  rw [hsrc]
  rcases entry_after_step entry s.fs s.a hn.aNotEntry hi.tmpA with h | h
  · rw [h]; exact hi.entryOK
  · exact Or.inr (Or.inl h)

theorem inv_step (entry : String) (init : Option Content) (s : St) (ev : Ev) (hn : Names entry s) (hi : Inv entry init s) :
    Inv entry init (step entry s ev) ∧ Names entry (step entry s ev) := by
  cases ev with
  | stepA => exact inv_stepA entry init s hn hi
  | stepB =>
    -- a step of `b` is a step of `a` in the state with the writers exchanged
    have h := inv_stepA entry init ⟨s.fs, s.b, s.a⟩ (Names.swap hn) (Inv.swap hi)
    exact ⟨Inv.swap h.1, Names.swap h.2⟩
  | crashA | crashB => exact ⟨⟨hi.entryOK, hi.tmpA, hi.tmpB⟩, ⟨hn.distinct, hn.aNotEntry, hn.bNotEntry⟩⟩

theorem inv_run (entry : String) (init : Option Content) : ∀ (evs : List Ev) (s : St), Names entry s → Inv entry init s →
    Inv entry init (run entry s evs) :=
  fun evs _ hn hi => (List.foldlRecOn (motive := fun s => Inv entry init s ∧ Names entry s) evs (step entry) ⟨hi, hn⟩
    fun s h ev _ => inv_step entry init s ev h.2 h.1).1

/-- **C15 (crash-safe, two writers)**: start two `build` calls for the same entry — with unique temporary names — and let
them run under *any* schedule, with *any* of them crashing at *any* point (the event list is arbitrary and of any
length): afterwards `get` finds no entry, the entry that was there before, or the complete module of one of the
writers.  Never an empty, header-only or torn file. -/
theorem C15_crash_safe (entry : String) (srcA srcB : Nat) (tmpA tmpB : String) (fs0 : FS) (evs : List Ev)
    (hd : tmpA ≠ tmpB) (ha : tmpA ≠ entry) (hb : tmpB ≠ entry) :
    let s0 : St := { fs := fs0, a := { src := srcA, tmp := tmpA }, b := { src := srcB, tmp := tmpB } }
    get entry (run entry s0 evs).fs = get entry fs0 ∨ get entry (run entry s0 evs).fs = some (.full srcA) ∨
      get entry (run entry s0 evs).fs = some (.full srcB) := by
  intro s0
  have h := (inv_run entry (fs0.get entry) evs s0 ⟨hd, ha, hb⟩ ⟨Or.inl rfl, trivial, trivial⟩).entryOK
  -- the writers keep their sources
  have hsrc : (run entry s0 evs).a.src = srcA ∧ (run entry s0 evs).b.src = srcB :=
    List.foldlRecOn (motive := fun s => s.a.src = srcA ∧ s.b.src = srcB) evs (step entry) ⟨rfl, rfl⟩ fun s h ev _ => by
      cases ev with
      | stepA => exact ⟨(src_tmp_const entry s.fs s.a).1.trans h.1, h.2⟩
      | stepB => exact ⟨h.1, (src_tmp_const entry s.fs s.b).1.trans h.2⟩
      | crashA | crashB => exact h
  unfold EntryOK at h
  rwa [hsrc.1, hsrc.2] at h

/-- a writer that is never interrupted stores its complete module -/
theorem C15_build_stores (entry : String) (src : Nat) (tmp : String) (fs0 : FS) (o : Writer) (h : tmp ≠ entry) :
    let s0 : St := { fs := fs0, a := { src := src, tmp := tmp }, b := o }
    get entry (run entry s0 [.stepA, .stepA, .stepA, .stepA, .stepA, .stepA]).fs = some (.full src) := by
  intro s0
  -- four writes leave the complete module in the temporary file; the rename puts it under `entry`
  simp [run, step, stepWriter, s0, get, get_set_same]

/-- why unique temporary names matter: with a *shared* temporary name a second writer's `mkstemp` truncates the file the
first is about to rename, and a truncated entry is stored -/
theorem C15_shared_tmp_counterexample :
    let s0 : St := { fs := [], a := { src := 1, tmp := "x.tmp" }, b := { src := 1, tmp := "x.tmp" } }
    get "e.py" (run "e.py" s0 [.stepA, .stepA, .stepA, .stepA, .stepA, .stepB, .stepA]).fs = some .empty := by
  decide +kernel

theorem proj_subset (small big : List String) (c1 c2 : Config) (hs : ∀ k ∈ small, k ∈ big)
    (h : proj big c1 = proj big c2) : proj small c1 = proj small c2 :=
  List.map_inj_left.mpr fun k hk => List.map_inj_left.mp h k (hs k hk)

/-- **C15 (sound key)**: if the key is an injective function of the keyed options and the generated code depends only
on the influencing options, and every influencing option is keyed, then equal keys mean equal generated code —
a stored module is reused only for a template that compiles to the same code.  (`hinj` idealises the digest: that `hashlib`
has no collisions is assumed, not modelled.) -/
theorem C15_sound {K M : Type} (keyed infl : List String) (hash : List (Option String) → K) (compile : Config → M)
    (hinj : Function.Injective hash)
    (hdep : ∀ c1 c2, proj infl c1 = proj infl c2 → compile c1 = compile c2)
    (hcov : ∀ k ∈ infl, k ∈ keyed) (c1 c2 : Config)
    (hk : hash (proj keyed c1) = hash (proj keyed c2)) : compile c1 = compile c2 :=
  hdep c1 c2 (proj_subset infl keyed c1 c2 hcov (hinj hk))

/-- options that are known to influence compilation without being keyed (finding D-15b): customised by replacing
callables/objects, for which no canonical text exists -/
def knownUnkeyed : List String := ["tokenizer", "expression_types", "default_marker"]

/-- **C15 (the key covers what influences compilation)** — partial: on the option lists observed on this run (flip each
constructor option, watch the digest / the generated code), every influencing option is keyed, except the three of
D-15b.  The full statement (`knownUnkeyed` empty) is false today: `C15_keyed_covers_counterexample`. -/
theorem C15_keyed_covers_partial :
    ∀ k ∈ ChamVerif.Gen.cacheInfluencing, k ∈ ChamVerif.Gen.cacheKeyed ∨ k ∈ knownUnkeyed := by decide +kernel

theorem C15_keyed_covers_counterexample :
    "tokenizer" ∈ ChamVerif.Gen.cacheInfluencing ∧ "tokenizer" ∉ ChamVerif.Gen.cacheKeyed := by decide +kernel

/-- **C15 (the key separates the option *values*)**: over all pairs of probed values of every option (not only one flip
per option), two values that give different code have different keys — except for the options of D-15b -/
theorem C15_key_separates_values :
    ∀ u ∈ ChamVerif.Gen.cacheUnsoundValuePairs, ∃ k ∈ knownUnkeyed, (k ++ ": ").isPrefixOf u = true := by decide +kernel

/-- nothing is keyed that the probe did not flip, and the control option (read by nothing) is neither keyed nor influencing -/
theorem C15_probe_sane :
    "debug_marker" ∉ ChamVerif.Gen.cacheInfluencing ∧ "debug_marker" ∉ ChamVerif.Gen.cacheKeyed ∧
    "encoding" ∉ ChamVerif.Gen.cacheInfluencing := by decide +kernel

theorem utf8_cases (c : Nat) :
    (c < 0x80 ∧ utf8 c = [c]) ∨
    (0x80 ≤ c ∧ c < 0x800 ∧ utf8 c = [0xC0 + c / 64, 0x80 + c % 64]) ∨
    (0x800 ≤ c ∧ c < 0x10000 ∧ utf8 c = [0xE0 + c / 4096, 0x80 + (c / 64) % 64, 0x80 + c % 64]) ∨
    (0x10000 ≤ c ∧ utf8 c = [0xF0 + c / 262144, 0x80 + (c / 4096) % 64, 0x80 + (c / 64) % 64, 0x80 + c % 64]) := by
  unfold utf8
  by_cases h1 : c < 0x80
  · left; exact ⟨h1, by simp [h1]⟩
  · by_cases h2 : c < 0x800
    · right; left; exact ⟨by omega, h2, by simp [h1, h2]⟩
    · by_cases h3 : c < 0x10000
      · right; right; left; exact ⟨by omega, h3, by simp [h1, h2, h3]⟩
      · right; right; right; exact ⟨by omega, by simp [h1, h2, h3]⟩

/-- reads one code point off the front: the lead byte gives the length, the payload bits the value -/
def utf8Head (l : List Nat) : Nat × List Nat :=
  let b (i : Nat) := l.getD i 0 - 0x80
  if l.getD 0 0 < 0x80 then (l.getD 0 0, l.drop 1)
  else if l.getD 0 0 < 0xE0 then ((l.getD 0 0 - 0xC0) * 64 + b 1, l.drop 2)
  else if l.getD 0 0 < 0xF0 then ((l.getD 0 0 - 0xE0) * 4096 + b 1 * 64 + b 2, l.drop 3)
  else ((l.getD 0 0 - 0xF0) * 262144 + b 1 * 4096 + b 2 * 64 + b 3, l.drop 4)

theorem utf8Head_utf8 (c : Nat) (x : List Nat) : utf8Head (utf8 c ++ x) = (c, x) := by
  -- the bound on the lead byte's payload decides the tests on the lead byte
  rcases utf8_cases c with ⟨h1, e⟩ | ⟨h1, h2, e⟩ | ⟨h1, h2, e⟩ | ⟨h1, e⟩ <;> rw [e]
  · simp [utf8Head, h1]
  · have : c / 64 ≤ 31 := by omega
    simp +arith [utf8Head, this]; omega
  · have : c / 4096 ≤ 15 := by omega
    simp +arith [utf8Head, this]; omega
  · simp +arith [utf8Head]; omega

theorem utf8_prefix_free (a b : Nat) (x y : List Nat) (ha : a < 0x110000) (hb : b < 0x110000)
    (h : utf8 a ++ x = utf8 b ++ y) : a = b ∧ x = y := by
  have := utf8Head_utf8 a x
  rw [h, utf8Head_utf8 b y] at this
  exact ⟨(Prod.mk.inj this).1.symm, (Prod.mk.inj this).2.symm⟩

/-- a code is prefix-free on `P` when the first symbol of an encoded text can be read off it -/
def PrefixFree {α β} (P : α → Prop) (f : α → List β) : Prop :=
  ∀ a b x y, P a → P b → f a ++ x = f b ++ y → a = b ∧ x = y

theorem PrefixFree.flatMap_inj {α β} {P : α → Prop} {f : α → List β} (hf : PrefixFree P f) (hne : ∀ a, P a → f a ≠ []) :
    ∀ s t : List α, (∀ c ∈ s, P c) → (∀ c ∈ t, P c) → s.flatMap f = t.flatMap f → s = t
  | [], [], _, _, _ => rfl
  | [], b :: t, _, ht, h => by
    simp only [List.flatMap_nil, List.flatMap_cons] at h
    exact absurd (List.append_eq_nil_iff.mp h.symm).1 (hne b (ht b (by simp)))
  | a :: s, [], hs, _, h => by
    simp only [List.flatMap_nil, List.flatMap_cons] at h
    exact absurd (List.append_eq_nil_iff.mp h).1 (hne a (hs a (by simp)))
  | a :: s, b :: t, hs, ht, h => by
    simp only [List.flatMap_cons] at h
    obtain ⟨rfl, h'⟩ := hf a b _ _ (hs a (by simp)) (ht b (by simp)) h
    rw [hf.flatMap_inj hne s t (fun c hc => hs c (by simp [hc])) (fun c hc => ht c (by simp [hc])) h']

/-- **C15 (the source text is keyed faithfully)**: with `surrogatepass` two sources have the same encoded bytes — the
part of the key that stands for the source — only if they are the same text, lone surrogates included -/
theorem C15_body_key_injective (s t : List Nat) (hs : ∀ c ∈ s, c < 0x110000) (ht : ∀ c ∈ t, c < 0x110000)
    (h : encodeBody "surrogatepass" s = encodeBody "surrogatepass" t) : s = t := by
  have hm : ∀ s, encodeBody "surrogatepass" s = s.flatMap utf8 := fun s => by
    simp [encodeBody, show ("surrogatepass" == "ignore") = false by decide]
  have hne : ∀ c, c < 0x110000 → utf8 c ≠ [] := fun c _ => by
    rcases utf8_cases c with ⟨_, e⟩ | ⟨_, _, e⟩ | ⟨_, _, e⟩ | ⟨_, e⟩ <;> simp [e]
  rw [hm, hm] at h
  exact PrefixFree.flatMap_inj utf8_prefix_free hne s t hs ht h

/-- with `ignore` (the code before the fix: finding D-15c) two different sources share their bytes -/
theorem C15_body_key_ignore_counterexample :
    encodeBody "ignore" [0x78] = encodeBody "ignore" [0x78, 0xD800] ∧ ([0x78] : List Nat) ≠ [0x78, 0xD800] := by decide

/-- the tie: the `errors` mode observed on the real `digest` in this run is the injective one -/
theorem C15_body_key_tie : ChamVerif.Gen.digestBodyErrors = "surrogatepass" := by decide

theorem nul_terminated_prefix_free : PrefixFree (fun c : List Nat => 0 ∉ c) (· ++ [0]) := by
  intro c1
  induction c1 with
  | nil =>
    intro c2 x y _ h2 h
    cases c2 with
    | nil => simpa using h
    | cons b c2 => simp at h h2; omega   -- the heads give `b = 0`, against `0 ∉ b :: c2`
  | cons a c1 ih =>
    intro c2 x y h1 h2 h
    cases c2 with
    | nil => simp at h h1; omega   -- likewise `a = 0`, against `0 ∉ a :: c1`
    | cons b c2 =>
      simp only [List.cons_append, List.cons.injEq] at h
      obtain ⟨rfl, hxy⟩ := ih c2 x y (fun hm => h1 (by simp [hm])) (fun hm => h2 (by simp [hm])) h.2
      exact ⟨by rw [h.1], hxy⟩

/-- **C15 (class name and source are keyed unambiguously)**: a class name contains no NUL, so the bytes `class NUL source`
determine both parts -/
theorem C15_key_bytes_injective (c1 c2 b1 b2 : List Nat) (h1 : 0 ∉ c1) (h2 : 0 ∉ c2)
    (h : keyBytes c1 b1 = keyBytes c2 b2) : c1 = c2 ∧ b1 = b2 :=
  nul_terminated_prefix_free c1 c2 b1 b2 h1 h2 (by simpa [keyBytes] using h)

/-- with the source directly followed by the class name (the code before the fix: finding D-15d) two different pairs share
their bytes: `"Hello " ++ "PageTemplate" = "Hello Page" ++ "Template"` -/
theorem C15_key_bytes_old_counterexample :
    let b (s : String) : List Nat := s.toList.map Char.toNat
    keyBytesOld (b "PageTemplate") (b "Hello ") = keyBytesOld (b "Template") (b "Hello Page") ∧ b "PageTemplate" ≠ b "Template" := by decide +kernel

/-- the tie: the layout observed on the real `digest` in this run is the unambiguous one -/
theorem C15_key_layout_tie : ChamVerif.Gen.digestLayout = "class-nul-body" := by decide

/-- **C15 (class name, file name and source are keyed unambiguously)**: neither a class name nor a file name contains a NUL,
so the bytes `class NUL file NUL source` determine all three -/
theorem C15_key_bytes_file_injective (c1 c2 f1 f2 b1 b2 : List Nat) (hc1 : 0 ∉ c1) (hc2 : 0 ∉ c2) (hf1 : 0 ∉ f1) (hf2 : 0 ∉ f2)
    (h : keyBytesFile c1 f1 b1 = keyBytesFile c2 f2 b2) : c1 = c2 ∧ f1 = f2 ∧ b1 = b2 := by
  have h1 := C15_key_bytes_injective c1 c2 (keyBytes f1 b1) (keyBytes f2 b2) hc1 hc2 h
  have h2 := C15_key_bytes_injective f1 f2 b1 b2 hf1 hf2 h1.2
  exact ⟨h1.1, h2.1, h2.2⟩

/-- without the file name in the hashed bytes (the code before the fix: finding D-15e) `page.pt` and `page.txt` with the same
source have the same bytes — and the same module name, which drops the extension (`keyBytes` takes no file name, so the
first conjunct has the same term on both sides) -/
theorem C15_key_bytes_file_old_counterexample :
    let b (s : String) : List Nat := s.toList.map Char.toNat
    keyBytes (b "PageTemplateFile") (b "<p>x</p>") = keyBytes (b "PageTemplateFile") (b "<p>x</p>") ∧ b "/d/page.pt" ≠ b "/d/page.txt" :=
  ⟨rfl, by decide +kernel⟩

/-- the tie: the layout observed on the real `digest` of a template with a file name in this run -/
theorem C15_key_file_layout_tie : ChamVerif.Gen.digestFileLayout = "class-nul-file-nul-body" := by decide

end ChamVerif.Sys.Cache
