import ChamProofs.Props.C06Regex
import ChamProofs.Props.C06
import ChamProofs.Props.C11
import ChamProofs.ListLemmas
/-! # C06 — the candidate loop of the Interpolator ends at the expression's own closing brace

`Interpolator.__call__` finds `${`, lets the greedy regex run to the *last* `}` of the text, and then shrinks the
candidate from the right, one `}` at a time, until the expression compiles.  `C06_candidate_own_brace`: in
`pre ++ "${" ++ e ++ "}" ++ post` — whatever braces `e` and `post` contain — if every longer candidate `e ++ "}" ++ x`
(`x` a piece of `post` that ends before one of its `}`) is rejected with an `ExpressionError` and `e` itself compiles, the
loop returns exactly `e`, and consumes exactly `${e}`.  (The premise about longer candidates is a hypothesis here:
`C06_own_brace` shows that for an `e` with balanced brackets and closed string literals every such candidate is
`definitelyInvalid`, the test by which `compileAlts` rejects a text its parser does not accept, but the step from there
to an `ExpressionError` of `compileTales` is not proved.)  `C06_interp_step` lifts this to `compileInterp`: literal
text before, the expression part, then the interpolation of `post`. -/
namespace ChamVerif.C06Loop
open ChamVerif

variable (c : TCfg)

/-- the configuration uses the regex the theorems are about (true of the regenerated `Rx.live`: `tie_bracesReq`) -/
structure RxOk : Prop where
  re : c.rx.bracesReq = bracesReqShape
  groups : c.rx.bracesReqGroups = [("expression", 2)]
  ent : c.rx.entity2Re = entity2Shape

theorem bracesSearch_eq (h : RxOk c) (pre b1 b2 : Str) (hpre : NoStart pre) (hb2 : 125 ∉ b2) :
    bracesSearch c.rx true (pre ++ 36 :: 123 :: (b1 ++ 125 :: b2)) =
      some (pre.length, { pos := pre.length + 2 + b1.length + 1,
                          caps := [(1, pre.length + 1, pre.length + 2 + b1.length + 1),
                                   (2, pre.length + 2, pre.length + 2 + b1.length)] }) := by
  unfold bracesSearch
  simp only [if_true, h.re]
  exact search_braces Gen.uni pre b1 b2 hpre hb2

theorem bracesSearch_start (h : RxOk c) (pre body : Str) (hpre : NoStart pre) (hb : 125 ∈ body) :
    ∃ st, bracesSearch c.rx true (pre ++ 36 :: 123 :: body) = some (pre.length, st) := by
  obtain ⟨x, y, rfl, hy⟩ := List.eq_append_cons_last_of_mem hb
  exact ⟨_, bracesSearch_eq c h pre x y hpre hy⟩

/-- one round of the candidate loop: the candidate is everything up to the last `}`; accepted, or cut there -/
theorem candidate_round (h : RxOk c) (f k pos ms0 : Nat) (pre b1 b2 : Str) (decode : Bool) (hpre : NoStart pre) (hb2 : 125 ∉ b2)
    (hb1 : b1 ≠ []) (hamp : decode = true → 38 ∉ b1) :
    candidate c (f + 1) { str := pre ++ 36 :: 123 :: (b1 ++ 125 :: b2), pos := pos } ms0 true decode (k + 1) =
      match compileTales c f { str := b1, pos := pos + (pre.length + 2) } with
      | .ok e => pure (.expr e { str := b1, pos := pos + (pre.length + 2) } b1, b1.length + 3)
      | .error (.template "ExpressionError" msg tok) =>
        match bracesSearch c.rx true (36 :: 123 :: b1) with
        | none => .error (.template "ExpressionError" msg tok)
        | some _ => candidate c f { str := 36 :: 123 :: b1, pos := pos + pre.length } 0 true decode k
      | .error e => .error e := by
  have hgrp : tokGroup c.rx.bracesReqGroups
      { pos := pre.length + 2 + b1.length + 1,
        caps := [(1, pre.length + 1, pre.length + 2 + b1.length + 1), (2, pre.length + 2, pre.length + 2 + b1.length)] }
      { str := pre ++ 36 :: 123 :: (b1 ++ 125 :: b2), pos := pos } "expression" =
      some { str := b1, pos := pos + (pre.length + 2) } := by
    simp only [tokGroup, grpSpan, h.groups, List.find?, beq_self_eq_true, Option.map]
    have h12 : ((1 : Nat) == 2) = false := rfl
    simp only [h12]
    rw [Tok.slice_mid (pre ++ [36, 123]) b1 (125 :: b2) (by simp) (by simp) rfl]
  have hvar : tokGroup c.rx.bracesReqGroups
      { pos := pre.length + 2 + b1.length + 1,
        caps := [(1, pre.length + 1, pre.length + 2 + b1.length + 1), (2, pre.length + 2, pre.length + 2 + b1.length)] }
      { str := pre ++ 36 :: 123 :: (b1 ++ 125 :: b2), pos := pos } "variable" = none := by
    simp only [tokGroup, grpSpan, h.groups, List.find?]
    rfl
  have hne : (b1.isEmpty) = false := by cases b1 with | nil => exact absurd rfl hb1 | cons _ _ => rfl
  have hslice : Tok.slice { str := pre ++ 36 :: 123 :: (b1 ++ 125 :: b2), pos := pos } pre.length
      (some (pre.length + 2 + b1.length + 1 - 1)) = { str := 36 :: 123 :: b1, pos := pos + pre.length } :=
    Tok.slice_mid pre (36 :: 123 :: b1) (125 :: b2) (by simp) rfl (by simp; omega)
  have hdec : (if decode = true then (decodeEntities c.rx b1).map (fun s => ({ str := s, pos := pos + (pre.length + 2) } : Tok))
      else some ({ str := b1, pos := pos + (pre.length + 2) } : Tok)) = some { str := b1, pos := pos + (pre.length + 2) } := by
    cases decode with
    | false => rfl
    | true => simp only [if_true, decodeEntities_no_amp c.rx h.ent b1 (hamp rfl), Option.map]
  rw [candidate]
  simp only [bracesSearch_eq c h pre b1 b2 hpre hb2, if_true, hgrp, hvar, hne, Bool.false_eq_true, if_false, hslice, hdec]
  have hlen : pre.length + 2 + b1.length + 1 - pre.length = b1.length + 3 := by omega
  simp only [hlen]
  -- both sides branch in the same way on the result of the compilation
  generalize compileTales c f { str := b1, pos := pos + (pre.length + 2) } = r
  split
  · rfl
  · rfl
  · rename_i hne
    split
    · rename_i heq; cases heq
    · rename_i heq; cases heq; exact absurd rfl (hne _ _)
    · rename_i heq; cases heq; rfl

/-- what it means that every candidate longer than `e` is rejected: compiling `e ++ "}" ++ x`, for every `x` that ends
before a `}` of `post`, gives an `ExpressionError` (for every fuel the loop can use: `g0 ≤ g ≤ f`) -/
def LongerRejected (g0 f : Nat) (e post : Str) (p0 : Nat) : Prop :=
  ∀ g x y, g0 ≤ g → g ≤ f → post = x ++ 125 :: y →
    ∃ msg tok, compileTales c g { str := e ++ 125 :: x, pos := p0 } = .error (.template "ExpressionError" msg tok)

/-- **C06 (the loop ends at the expression's own closing brace)** -/
theorem C06_candidate_own_brace (h : RxOk c) (g0 : Nat) (e : Str) (he : e ≠ []) (decode : Bool) (hae : decode = true → 38 ∉ e) :
    ∀ (n : Nat) (post pre : Str) (pos ms0 f k : Nat), post.length ≤ n → NoStart pre → g0 + post.length ≤ f → post.length ≤ k →
      (decode = true → 38 ∉ post) →
      LongerRejected c g0 f e post (pos + (pre.length + 2)) →
      (∀ g, g0 ≤ g → g ≤ f → ∃ te, compileTales c g { str := e, pos := pos + (pre.length + 2) } = .ok te) →
      ∃ g te, g0 ≤ g ∧ g ≤ f ∧ compileTales c g { str := e, pos := pos + (pre.length + 2) } = .ok te ∧
        candidate c (f + 1) { str := pre ++ 36 :: 123 :: (e ++ 125 :: post), pos := pos } ms0 true decode (k + 1) =
          .ok (.expr te { str := e, pos := pos + (pre.length + 2) } e, e.length + 3) := by
  intro n post pre pos ms0 f k hn
  clear hn -- the bound `n` is not used
  generalize hp0 : pos + (pre.length + 2) = p0
  induction hL : post.length using Nat.strongRecOn generalizing post pre pos ms0 f k with
  | _ L ih =>
    intro hpre hf hk hap hrej hacc
    by_cases hmem : 125 ∈ post
    · -- the candidate runs to the last `}` of `post` and is rejected; the loop goes on with the text cut there, `pre = []`
      obtain ⟨x, y, rfl, hy⟩ := List.eq_append_cons_last_of_mem hmem
      simp only [List.length_append, List.length_cons] at hL hf hk
      obtain ⟨msg, tok, hrj⟩ := hrej f x y (by omega) (Nat.le_refl _) rfl
      have hax : decode = true → 38 ∉ x := fun hd hm => hap hd (by simp [hm])
      rw [show pre ++ 36 :: 123 :: (e ++ 125 :: (x ++ 125 :: y)) = pre ++ 36 :: 123 :: ((e ++ 125 :: x) ++ 125 :: y) by simp,
        candidate_round c h f k pos ms0 pre (e ++ 125 :: x) y decode hpre hy (by simp)
          (fun hd => by simp [hae hd, hax hd]), hp0, hrj]
      obtain ⟨st, hs⟩ := bracesSearch_start c h [] (e ++ 125 :: x) noStart_nil (by simp)
      obtain ⟨f', rfl⟩ : ∃ f', f = f' + 1 := ⟨f - 1, by omega⟩
      obtain ⟨k', rfl⟩ : ∃ k', k = k' + 1 := ⟨k - 1, by omega⟩
      obtain ⟨g, te, hg, hg2, hte, hcand⟩ := ih x.length (by omega) x [] (pos + pre.length) 0 f' k' (by simp only [List.length_nil]; omega) rfl
        noStart_nil (by omega) (by omega) hax
        (fun g x' y' hg hg2 hx' => hrej g x' (y' ++ 125 :: y) hg (by omega) (by simp [hx']))
        (fun g hg hg2 => hacc g hg (by omega))
      simp only [List.nil_append] at hs hcand
      exact ⟨g, te, hg, by omega, hte, by simp only [hs, hcand]⟩
    · -- no `}` after the expression's own: the first candidate is `e`
      obtain ⟨te, hte⟩ := hacc f (by omega) (Nat.le_refl _)
      refine ⟨f, te, by omega, Nat.le_refl _, hte, ?_⟩
      rw [candidate_round c h f k pos ms0 pre e post decode hpre hmem he hae, hp0, hte]
      rfl

theorem trailing_run (pre0 : Str) (k : Nat) (h : 36 ∉ pre0) :
    ((pre0 ++ List.replicate k 36).reverse.takeWhile (· == 36)).length = k := by
  have hnil : pre0.reverse.takeWhile (· == 36) = [] := by
    cases hr : pre0.reverse with
    | nil => rfl
    | cons a t =>
      have : a ≠ 36 := fun e => h (e ▸ List.mem_reverse.mp (hr ▸ List.mem_cons_self))
      simp [this]
  rw [List.reverse_append, List.reverse_replicate, List.takeWhile_append_of_pos (by simp), hnil]
  simp

/-- `$$` collapses pairwise: a run of `k` dollars becomes `⌈k/2⌉` -/
theorem undouble_replicate : ∀ (k : Nat), undoubleDollar (List.replicate k 36) = List.replicate ((k + 1) / 2) 36
  | 0 => rfl
  | 1 => rfl
  | k + 2 => by
    have : List.replicate (k + 2) 36 = 36 :: 36 :: List.replicate k 36 := rfl
    rw [this, undoubleDollar, undouble_replicate k]
    have : (k + 2 + 1) / 2 = (k + 1) / 2 + 1 := by omega
    rw [this]
    rfl

theorem undouble_run (pre0 : Str) (k : Nat) (h : 36 ∉ pre0) :
    undoubleDollar (pre0 ++ List.replicate k 36) = pre0 ++ List.replicate ((k + 1) / 2) 36 := by
  induction pre0 with
  | nil => exact undouble_replicate k
  | cons c r ih =>
    rw [List.mem_cons, not_or] at h
    rw [List.cons_append, undouble_cons_ne (Ne.symm h.1), ih h.2, List.cons_append]

/-- one step of the Interpolator on a text whose first `${` is known to begin after `pre`: the slices resolved -/
theorem compileInterp_at (f : Nat) (pre rest : Str) (pos : Nat) (decode : Bool) (st : St) (hne : rest ≠ [])
    (hs : bracesSearch c.rx true (pre ++ rest) = some (pre.length, st)) :
    compileInterp c (f + 1) { str := pre ++ rest, pos := pos } true decode =
      if !pre.isEmpty && (pre.reverse.takeWhile (· == 36)).length % 2 == 1 then (do
        let more ← compileInterp c f { str := rest.drop 1, pos := pos + pre.length + 1 } true decode
        pure ((if pre.isEmpty then [] else [IPart.lit (undoubleDollar pre)]) ++ more))
      else (do
        let (ipart, mlen) ← candidate c f { str := pre ++ rest, pos := pos } pre.length true decode ((pre ++ rest).length + 1)
        let more ← compileInterp c f { str := rest.drop mlen, pos := pos + pre.length + mlen } true decode
        pure ((if pre.isEmpty then [] else [IPart.lit (undoubleDollar pre)]) ++ [ipart] ++ more)) := by
  have hpart : Tok.slice { str := pre ++ rest, pos := pos } 0 (some pre.length) = { str := pre, pos := pos } :=
    Tok.slice_mid [] pre rest rfl rfl (by simp)
  have hemp : (pre ++ rest).isEmpty = false := by cases pre <;> cases rest <;> simp_all
  rw [compileInterp]
  simp only [hemp, hs, hpart, Tok.slice_from pre rest rfl rfl, Tok.slice_none]
  rfl

/-- the general step: `pre` holds no `${` start and ends in an even number of `$` (possibly none): the literal is `pre` with its `$$`
collapsed, then the expression `e`, then the parts of `post` -/
theorem C06_interp_step_gen (h : RxOk c) (g0 : Nat) (e : Str) (he : e ≠ []) (pre post : Str) (pos f : Nat) (decode : Bool)
    (hae : decode = true → 38 ∉ e) (hap : decode = true → 38 ∉ post)
    (hpre : NoStart pre) (htr : (pre.reverse.takeWhile (· == 36)).length % 2 = 0) (hf : g0 + post.length ≤ f)
    (hrej : LongerRejected c g0 f e post (pos + (pre.length + 2)))
    (hacc : ∀ g, g0 ≤ g → g ≤ f → ∃ te, compileTales c g { str := e, pos := pos + (pre.length + 2) } = .ok te) :
    ∃ g te, g0 ≤ g ∧ g ≤ f ∧ compileTales c g { str := e, pos := pos + (pre.length + 2) } = .ok te ∧
      compileInterp c (f + 2) { str := pre ++ 36 :: 123 :: (e ++ 125 :: post), pos := pos } true decode =
        (compileInterp c (f + 1) { str := post, pos := pos + pre.length + (e.length + 3) } true decode).map
          (fun rest => (if pre.isEmpty then [] else [IPart.lit (undoubleDollar pre)]) ++
            [IPart.expr te { str := e, pos := pos + (pre.length + 2) } e] ++ rest) := by
  obtain ⟨g, te, hg, hg2, hte, hcand⟩ := C06_candidate_own_brace c h g0 e he decode hae post.length post pre pos pre.length f
    ((pre ++ 36 :: 123 :: (e ++ 125 :: post)).length) (Nat.le_refl _) hpre hf (by simp; omega) hap hrej hacc
  obtain ⟨st, hst⟩ := bracesSearch_start c h pre (e ++ 125 :: post) hpre (by simp)
  have h3 : (36 :: 123 :: (e ++ 125 :: post)).drop (e.length + 3) = post := by
    rw [show 36 :: 123 :: (e ++ 125 :: post) = (36 :: 123 :: (e ++ [125])) ++ post by simp]
    exact List.drop_left' (by simp)
  refine ⟨g, te, hg, hg2, hte, ?_⟩
  rw [compileInterp_at c (f + 1) pre _ pos decode st (by simp) hst, htr]
  simp only [Nat.reduceBEq, Bool.and_false, Bool.false_eq_true, if_false, hcand, h3, bind, Except.bind]
  cases compileInterp c (f + 1) { str := post, pos := pos + pre.length + (e.length + 3) } true decode <;> rfl

/-- **C06 (one `${…}` of a text)**: literal text without `$`, then `${e}`, then anything: the parts are the literal, the
expression `e` — ended at its own closing brace — and the parts of what follows `${e}` -/
theorem C06_interp_step (h : RxOk c) (g0 : Nat) (e : Str) (he : e ≠ []) (pre post : Str) (pos f : Nat) (decode : Bool)
    (hae : decode = true → 38 ∉ e) (hap : decode = true → 38 ∉ post)
    (hpre : 36 ∉ pre) (hf : g0 + post.length ≤ f)
    (hrej : LongerRejected c g0 f e post (pos + (pre.length + 2)))
    (hacc : ∀ g, g0 ≤ g → g ≤ f → ∃ te, compileTales c g { str := e, pos := pos + (pre.length + 2) } = .ok te) :
    ∃ g te, g0 ≤ g ∧ g ≤ f ∧ compileTales c g { str := e, pos := pos + (pre.length + 2) } = .ok te ∧
      compileInterp c (f + 2) { str := pre ++ 36 :: 123 :: (e ++ 125 :: post), pos := pos } true decode =
        (compileInterp c (f + 1) { str := post, pos := pos + pre.length + (e.length + 3) } true decode).map
          (fun rest => (if pre.isEmpty then [] else [IPart.lit pre]) ++
            [IPart.expr te { str := e, pos := pos + (pre.length + 2) } e] ++ rest) := by
  have := C06_interp_step_gen c h g0 e he pre post pos f decode hae hap (noStart_of_no_dollar pre hpre)
    (by simpa using congrArg (· % 2) (trailing_run pre 0 hpre)) hf hrej hacc
  rwa [undouble_no_dollar pre hpre] at this

/-- text without `$` is one literal part (or none when empty) -/
theorem compileInterp_no_dollar (h : RxOk c) (f pos : Nat) (t : Str) (decode : Bool) (ht : 36 ∉ t) :
    compileInterp c (f + 1) { str := t, pos := pos } true decode = .ok (if t.isEmpty then [] else [IPart.lit t]) := by
  rw [compileInterp]
  cases t with
  | nil => rfl
  | cons a r =>
    have hs : bracesSearch c.rx true (a :: r) = none := by
      unfold bracesSearch
      simp only [if_true, h.re]
      exact search_no_dollar Gen.uni (a :: r) ht
    simp only [List.isEmpty_cons, Bool.false_eq_true, if_false, hs, undouble_no_dollar (a :: r) ht]
    rfl

/-- **C06 (text, one expression, text)**: `pre ++ "${" ++ e ++ "}" ++ post` with no `$` in `pre` and `post` is exactly three parts:
the literal `pre`, the expression `e`, the literal `post` (empty literals are dropped) — whatever braces `e` and `post` hold -/
theorem C06_text_expr_text (h : RxOk c) (g0 : Nat) (e : Str) (he : e ≠ []) (pre post : Str) (pos f : Nat) (decode : Bool)
    (hae : decode = true → 38 ∉ e) (hap : decode = true → 38 ∉ post)
    (hpre : 36 ∉ pre) (hpost : 36 ∉ post) (hf : g0 + post.length ≤ f)
    (hrej : LongerRejected c g0 f e post (pos + (pre.length + 2)))
    (hacc : ∀ g, g0 ≤ g → g ≤ f → ∃ te, compileTales c g { str := e, pos := pos + (pre.length + 2) } = .ok te) :
    ∃ g te, g0 ≤ g ∧ g ≤ f ∧ compileTales c g { str := e, pos := pos + (pre.length + 2) } = .ok te ∧
      compileInterp c (f + 2) { str := pre ++ 36 :: 123 :: (e ++ 125 :: post), pos := pos } true decode =
        .ok ((if pre.isEmpty then [] else [IPart.lit pre]) ++ [IPart.expr te { str := e, pos := pos + (pre.length + 2) } e] ++
             (if post.isEmpty then [] else [IPart.lit post])) := by
  obtain ⟨g, te, hg, hg2, hte, hstep⟩ := C06_interp_step c h g0 e he pre post pos f decode hae hap hpre hf hrej hacc
  refine ⟨g, te, hg, hg2, hte, ?_⟩
  rw [hstep, compileInterp_no_dollar c h f _ post decode hpost]
  rfl

/-- **C06 (an even run of `$` before `${`)**: `pre0` (no `$`), `2·j` dollars, `${e}`: the dollars collapse to `j` literal ones
and the expression is live -/
theorem C06_dollar_run_even (h : RxOk c) (g0 : Nat) (e : Str) (he : e ≠ []) (pre0 post : Str) (j pos f : Nat) (decode : Bool)
    (hae : decode = true → 38 ∉ e) (hap : decode = true → 38 ∉ post)
    (hpre : 36 ∉ pre0) (hf : g0 + post.length ≤ f)
    (hrej : LongerRejected c g0 f e post (pos + ((pre0 ++ List.replicate (2 * j) 36).length + 2)))
    (hacc : ∀ g, g0 ≤ g → g ≤ f → ∃ te, compileTales c g { str := e, pos := pos + ((pre0 ++ List.replicate (2 * j) 36).length + 2) } = .ok te) :
    ∃ g te, g0 ≤ g ∧ g ≤ f ∧
      compileInterp c (f + 2) { str := (pre0 ++ List.replicate (2 * j) 36) ++ 36 :: 123 :: (e ++ 125 :: post), pos := pos } true decode =
        (compileInterp c (f + 1) { str := post, pos := pos + (pre0 ++ List.replicate (2 * j) 36).length + (e.length + 3) } true decode).map
          (fun rest => (if (pre0 ++ List.replicate (2 * j) 36).isEmpty then [] else [IPart.lit (pre0 ++ List.replicate j 36)]) ++
            [IPart.expr te { str := e, pos := pos + ((pre0 ++ List.replicate (2 * j) 36).length + 2) } e] ++ rest) := by
  obtain ⟨g, te, hg, hg2, _, hstep⟩ := C06_interp_step_gen c h g0 e he (pre0 ++ List.replicate (2 * j) 36) post pos f decode hae hap
    (noStart_run pre0 (2 * j) hpre) (by rw [trailing_run pre0 (2 * j) hpre]; omega) hf hrej hacc
  refine ⟨g, te, hg, hg2, ?_⟩
  rwa [undouble_run pre0 (2 * j) hpre, show (2 * j + 1) / 2 = j by omega] at hstep

/-- **C06 (`$$` in front of `${`: the expression is escaped)**: `pre0` (no `$`), an odd number `2·j + 1` of dollars, then
`${e}…`: the `$` of the would-be `${` pairs with the dollar before it — the literal is `pre0` and `j + 1` dollars, and what
follows is read on from the `{`, which is ordinary text: nothing of `e` is compiled here -/
theorem C06_dollar_run_odd (h : RxOk c) (e pre0 post : Str) (j pos f : Nat) (decode : Bool) (hpre : 36 ∉ pre0) :
    compileInterp c (f + 1) { str := (pre0 ++ List.replicate (2 * j + 1) 36) ++ 36 :: 123 :: (e ++ 125 :: post), pos := pos } true decode =
      (compileInterp c f { str := 123 :: (e ++ 125 :: post), pos := pos + (pre0 ++ List.replicate (2 * j + 1) 36).length + 1 } true decode).map
        (fun rest => [IPart.lit (pre0 ++ List.replicate (j + 1) 36)] ++ rest) := by
  generalize hP : pre0 ++ List.replicate (2 * j + 1) 36 = pre
  have hne : pre.isEmpty = false := by rw [← hP]; cases pre0 <;> simp [List.replicate_succ]
  obtain ⟨st, hst⟩ := bracesSearch_start c h pre (e ++ 125 :: post) (hP ▸ noStart_run pre0 (2 * j + 1) hpre) (by simp)
  rw [compileInterp_at c f pre _ pos decode st (by simp) hst, ← hP, trailing_run pre0 (2 * j + 1) hpre,
    undouble_run pre0 (2 * j + 1) hpre, hP, show (2 * j + 1 + 1) / 2 = j + 1 by omega]
  simp only [hne, Nat.mul_add_mod_self_left, Nat.one_mod, Bool.not_false, beq_self_eq_true, Bool.and_self, if_true,
    Bool.false_eq_true, if_false, List.drop_succ_cons, List.drop_zero, bind, Except.bind]
  cases compileInterp c f { str := 123 :: (e ++ 125 :: post), pos := pos + pre.length + 1 } true decode <;> rfl

/-- a configuration with the regenerated regexes -/
def c0 : TCfg := { rx := Rx.live, q := Quirks.current, oracle := [] }

theorem c0_ok : RxOk c0 := ⟨tie_bracesReq.1, tie_bracesReq.2, tie_entity2⟩

def isExprErr : CRes TExpr → Bool
  | .error (.template cls _ _) => cls == "ExpressionError"
  | _ => false

def isOk : CRes TExpr → Bool
  | .ok _ => true
  | _ => false

theorem isExprErr_spec (r : CRes TExpr) (h : isExprErr r = true) :
    ∃ msg tok, r = .error (.template "ExpressionError" msg tok) := by
  cases r with
  | ok _ => cases h
  | error e =>
    cases e with
    | template cls msg tok =>
      have : cls = "ExpressionError" := by simpa [isExprErr] using h
      exact ⟨msg, tok, by rw [this]⟩
    | templateNoSrc _ _ _ => cases h
    | crash _ => cases h

theorem isOk_spec (r : CRes TExpr) (h : isOk r = true) : ∃ te, r = .ok te := by
  cases r with
  | ok te => exact ⟨te, rfl⟩
  | error _ => cases h

/-- non-vacuity: the premises hold for the text `abc${x}}` — expression `x`, one more `}` after it: the longer candidate
`x}` is rejected and `x` compiles, at the fuels the loop uses (kernel evaluation of the model's compiler on the
regenerated regexes) -/
example : LongerRejected c0 3 4 [120] [125] 3 ∧
    (∀ g, 3 ≤ g → g ≤ 4 → ∃ te, compileTales c0 g { str := [120], pos := 3 } = .ok te) := by
  constructor
  · intro g x y h1 h2 hxy
    have hx : x = [] := by
      cases x with
      | nil => rfl
      | cons a r => cases r <;> simp at hxy
    subst hx
    have hg : g = 3 ∨ g = 4 := by omega
    rcases hg with rfl | rfl
    · exact isExprErr_spec _ (by decide +kernel)
    · exact isExprErr_spec _ (by decide +kernel)
  · intro g h1 h2
    have hg : g = 3 ∨ g = 4 := by omega
    rcases hg with rfl | rfl
    · exact isOk_spec _ (by decide +kernel)
    · exact isOk_spec _ (by decide +kernel)

end ChamVerif.C06Loop
