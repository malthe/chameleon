import ChamVerif.Build
import ChamProofs.Props.C07
import ChamProofs.ListLemmas
/-! # C18 — template-language markup never leaks; independence of prefix spelling

`prepare_attributes` decides which attributes of a start tag reach the output.  The theorems below hold for
*every* attribute list, dynamic list and i18n list (no bound), for the model of /repo after the D-18a fixes
(`zipPairing = false`); the counterexamples show that they were false before. -/
namespace ChamVerif

/-- names a start tag may legitimately show: its static attributes that are not dropped, the targets of
`tal:attributes`, the names listed by `i18n:attributes` -/
def allowedNames (attrs : List Attr) (drop : List Str) (dyn : List (Option Tok × Tok)) (i18nAttrs : List (Str × Option Str)) : List Str :=
  (attrs.filter (fun a => !drop.contains a.name.str)).map (·.name.str) ++
    dyn.filterMap (fun d => d.1.map (·.str)) ++ i18nAttrs.map (·.1)

def NamesIn (S : List Str) (l : List PAttr) : Prop := ∀ p ∈ l, ∀ n, p.name = some n → n ∈ S

theorem namesIn_append {S l1 l2} (h1 : NamesIn S l1) (h2 : NamesIn S l2) : NamesIn S (l1 ++ l2) := by
  intro p hp n hn
  rcases List.mem_append.mp hp with h | h
  · exact h1 p h n hn
  · exact h2 p h n hn

theorem namesIn_set {S l k pa} (h1 : NamesIn S l) (h2 : ∀ n, pa.name = some n → n ∈ S) : NamesIn S (l.set k pa) := by
  intro p hp n hn
  rcases List.mem_or_eq_of_mem_set hp with h | h
  · exact h1 p h n hn
  · subst h; exact h2 n hn

/-- **C18 (nothing of the language leaks through the attribute list)**: every named entry of the prepared
attribute list is a static attribute that is *not* dropped, a `tal:attributes` target or an
`i18n:attributes` name.  For every attribute list, dynamic list and i18n list. -/
theorem C18_names_allowed (q : Quirks) (attrs : List Attr) (dyn : List (Option Tok × Tok))
    (i18nAttrs : List (Str × Option Str)) (nsOf : Attr → Str) (ns : List ((Str × Str) × Tok)) (dropNs : List Str)
    (res : List PAttr) (h : prepareAttributes q attrs dyn i18nAttrs nsOf ns dropNs = some res) :
    NamesIn (allowedNames attrs (dropNames q attrs nsOf ns dropNs) dyn i18nAttrs) res := by
  generalize hS : allowedNames attrs (dropNames q attrs nsOf ns dropNs) dyn i18nAttrs = S
  have hone : ∀ pa : PAttr, (∀ n, pa.name = some n → n ∈ S) → NamesIn S [pa] := by
    intro pa hpa p hp n hn; rw [List.mem_singleton.mp hp] at hn; exact hpa n hn
  have hdynName : ∀ d ∈ dyn, ∀ n, d.1.map (·.str) = some n → n ∈ S := fun d hd n hn =>
    hS ▸ List.mem_append_left _ (List.mem_append_right _ (List.mem_filterMap.mpr ⟨d, hd, hn⟩))
  refine prepareAttributes_list_inv _ h ?_ ?_ ?_ ?_
  · intro p hp n hn
    obtain ⟨a, ha, rfl⟩ := List.mem_map.mp hp
    cases hn
    exact hS ▸ List.mem_append_left _ (List.mem_append_left _ (List.mem_map.mpr ⟨a, ha, rfl⟩))
  · exact fun l k d hd hl _ => namesIn_set hl (hdynName d hd)
  · exact fun l d hd hl => namesIn_append hl (hone _ (hdynName d hd))
  · exact fun l x hx hl => namesIn_append hl (hone _ (fun n hn => by
      cases hn; exact hS ▸ List.mem_append_right _ (List.mem_map.mpr ⟨x, hx, rfl⟩)))

theorem mem_dropNames (q : Quirks) (hq : q.zipPairing = false) (attrs : List Attr) (nsOf : Attr → Str)
    (ns : List ((Str × Str) × Tok)) (dropNs : List Str) (n : Str) :
    n ∈ dropNames q attrs nsOf ns dropNs ↔ ∃ a ∈ attrs, isDropped dropNs (nsOf a) a.value.str = true ∧ a.name.str = n := by
  simp only [dropNames, hq, Bool.false_eq_true, if_false, List.mem_map, List.mem_filter, and_assoc]

/-- after the fix: an attribute whose resolved namespace is a language namespace, or that declares one, is
never among the allowed static names -/
theorem C18_language_attr_dropped (attrs : List Attr) (nsOf : Attr → Str) (ns : List ((Str × Str) × Tok)) (dropNs : List Str)
    (q : Quirks) (hq : q.zipPairing = false) (a : Attr) (ha : a ∈ attrs) (hl : isDropped dropNs (nsOf a) a.value.str = true) :
    a.name.str ∈ dropNames q attrs nsOf ns dropNs :=
  (mem_dropNames q hq attrs nsOf ns dropNs _).mpr ⟨a, ha, hl, rfl⟩

/-- … and nothing else is dropped: a dropped name is the name of a language attribute or declaration -/
theorem C18_only_language_dropped (attrs : List Attr) (nsOf : Attr → Str) (ns : List ((Str × Str) × Tok)) (dropNs : List Str)
    (q : Quirks) (hq : q.zipPairing = false) (n : Str) (hn : n ∈ dropNames q attrs nsOf ns dropNs) :
    ∃ a ∈ attrs, a.name.str = n ∧ isDropped dropNs (nsOf a) a.value.str = true := by
  obtain ⟨a, ha, hl, rfl⟩ := (mem_dropNames q hq attrs nsOf ns dropNs n).mp hn
  exact ⟨a, ha, rfl, hl⟩

/-- what the start tag shows of an entry apart from its (possibly re-spelled) name and dynamic value -/
def PAttr.shape (p : PAttr) : Option Tok × Str × Str × Str := (p.text, p.quote, p.space, p.eq)

/-- **C18 (every other attribute is preserved)**: the static attributes that are not dropped keep their value, quote,
spacing and `=`, in source order, at the head of the prepared list, whatever `tal:attributes` and
`i18n:attributes` add or re-target (those only append entries or replace name/expression in place). -/
theorem C18_others_preserved (q : Quirks) (attrs : List Attr) (dyn : List (Option Tok × Tok))
    (i18nAttrs : List (Str × Option Str)) (nsOf : Attr → Str) (ns : List ((Str × Str) × Tok)) (dropNs : List Str)
    (res : List PAttr) (h : prepareAttributes q attrs dyn i18nAttrs nsOf ns dropNs = some res) :
    (staticEntries attrs (dropNames q attrs nsOf ns dropNs)).map PAttr.shape <+: res.map PAttr.shape := by
  refine prepareAttributes_list_inv (fun l => _ <+: l.map PAttr.shape) h (List.prefix_refl _) ?_ ?_ ?_
  · intro l k d _ hl hk
    show _ <+: (l.set k _).map PAttr.shape
    rw [List.map_set_same PAttr.shape l k ⟨d.1.map (·.str), _, _, _, _, some d.2⟩ default hk rfl]; exact hl
  · intro l d _ hl; rw [List.map_append]; exact List.prefix_append_of_prefix hl
  · intro l x _ hl; rw [List.map_append]; exact List.prefix_append_of_prefix hl

/-- is `a` a control attribute in data spelling (after the fix: only prefixes bound to a language namespace) -/
def isControlData (m : NsMap) (dropNs : List Str) (a : Attr) : Bool :=
  match dataTarget Quirks.current m dropNs a with
  | .ok (some _) => true
  | _ => false

theorem dataTarget_current (m : NsMap) (dropNs : List Str) (a : Attr) :
    ∃ r, dataTarget Quirks.current m dropNs a = .ok r ∧ ∀ key, r = some key → key.1 ∈ dropNs := by
  unfold dataTarget
  simp only [Quirks.current, Bool.false_eq_true, if_false, Bool.false_or]
  split
  · split
    · exact ⟨none, rfl, nofun⟩
    · split
      · exact ⟨none, rfl, nofun⟩
      · split
        · rename_i hc; exact ⟨_, rfl, fun key hk => by cases hk; simpa using hc⟩
        · exact ⟨none, rfl, nofun⟩
  · exact ⟨none, rfl, nofun⟩

theorem convert_fold (m : NsMap) (dropNs : List Str) : ∀ (attrs : List Attr) (ns : List ((Str × Str) × Tok)) (acc : List Attr),
    ∃ ns', attrs.foldlM (convertStep Quirks.current dropNs m) (ns, acc)
      = (.ok (ns', acc ++ attrs.filter (fun a => !isControlData m dropNs a)) : CRes _) := by
  intro attrs
  induction attrs with
  | nil => intro ns acc; exact ⟨ns, by simp [pure, Except.pure]⟩
  | cons a attrs ih =>
    intro ns acc
    simp only [List.foldlM_cons]
    obtain ⟨r, hr, _⟩ := dataTarget_current m dropNs a
    cases r with
    | none =>
      obtain ⟨ns', h'⟩ := ih ns (acc ++ [a])
      refine ⟨ns', ?_⟩
      simp only [convertStep, hr, bind, Except.bind, pure, Except.pure] at h' ⊢
      rw [h']
      simp [isControlData, hr]
    | some key =>
      obtain ⟨ns', h'⟩ := ih (odSet ns key a.value) acc
      refine ⟨ns', ?_⟩
      simp only [convertStep, hr, bind, Except.bind, pure, Except.pure] at h' ⊢
      rw [h']
      simp [isControlData, hr]

/-- **C18 (enabling data attributes leaves ordinary `data-*` attributes alone)**: the conversion never fails and removes
from the start tag exactly the `data-<p>-<name>` attributes whose prefix is bound to a language namespace; every
other attribute — `data-foo`, `data-x-y` with an unbound or foreign prefix — stays, in order. -/
theorem C18_data_ordinary_untouched (m : NsMap) (dropNs : List Str) (ns : List ((Str × Str) × Tok)) (attrs : List Attr) :
    ∃ ns', convertDataAttributes Quirks.current dropNs ns attrs m =
      .ok (ns', attrs.filter (fun a => !isControlData m dropNs a)) := by
  obtain ⟨ns', h⟩ := convert_fold m dropNs attrs ns []
  exact ⟨ns', by simpa [convertDataAttributes] using h⟩

/-- a control attribute in data spelling resolves to a *language* namespace -/
theorem C18_data_control_is_language (m : NsMap) (dropNs : List Str) (a : Attr) (key : Str × Str)
    (h : dataTarget Quirks.current m dropNs a = .ok (some key)) : key.1 ∈ dropNs := by
  obtain ⟨r, hr, hk⟩ := dataTarget_current m dropNs a
  exact hk key (Except.ok.inj (hr.symm.trans h))

/-- the resolved form of an attribute: (namespace URI, local name) ↦ value -/
def resolvedKey (m : NsMap) (default : Str) (a : Attr) : Str × Str :=
  match splitColon a.name.str with
  | some (pfx, local_) => ((m.get (some pfx)).getD default, local_)
  | none => (default, a.name.str)

abbrev OD := List ((Str × Str) × Tok)

-- `attrKey` is `resolvedKey`, under the name the C01 theorems use
/-- the key under which `unpack_attributes` files an attribute -/
def attrKey (m : NsMap) (d : Str) (a : Attr) : Str × Str :=
  match splitColon a.name.str with
  | some (pfx, l) => ((m.get (some pfx)).getD d, l)
  | none => (d, a.name.str)

/-- the dictionary after filing `l` into `acc` -/
def fileAll (m : NsMap) (d : Str) (acc : OD) (l : List Attr) : OD :=
  l.foldl (fun acc a => odSet acc (attrKey m d a) a.value) acc

theorem unpackStep_eq (m : NsMap) (d : Str) (r : Bool) (acc : OD) (a : Attr) :
    unpackStep m d r acc a =
      if r && !(splitColon a.name.str).all (fun p => (m.get (some p.1)).isSome) then .error (.crash "KeyError")
      else .ok (odSet acc (attrKey m d a) a.value) := by
  unfold unpackStep attrKey
  cases splitColon a.name.str with
  | none => simp [pure, Except.pure]
  | some p => cases hm : m.get (some p.1) <;> cases r <;> simp [hm, pure, Except.pure]

/-- `unpack_attributes` files every attribute under its resolved key, later ones over earlier ones; its only failure is
an unbound prefix in restricted mode -/
theorem unpackAttributes_eq (l : List Attr) (m : NsMap) (d : Str) (r : Bool) :
    unpackAttributes l m d r =
      if r && !l.all (fun a => (splitColon a.name.str).all fun p => (m.get (some p.1)).isSome) then .error (.crash "KeyError")
      else .ok (fileAll m d [] l) := by
  unfold unpackAttributes
  generalize ([] : OD) = acc
  induction l generalizing acc with
  | nil => simp [fileAll, pure, Except.pure]
  | cons a l ih =>
    rw [List.foldlM_cons, unpackStep_eq]
    simp only [List.all_cons, Bool.not_and, Bool.and_or_distrib_left]
    cases (r && !(splitColon a.name.str).all (fun p => (m.get (some p.1)).isSome)) with
    | true => rfl
    | false =>
      simp only [Bool.false_or, Bool.false_eq_true, if_false, bind, Except.bind]
      exact ih _

/-- **C18 (prefix spelling is invisible after resolution)**: the namespaced attribute dictionary a start tag yields
depends on its attributes only through their resolved `(namespace URI, local name) ↦ value` — so two spellings whose
attributes resolve alike (default prefix, any other prefix bound to the same URI on any ancestor, or no prefix on
an element of that namespace) give the same dictionary, hence the same statements.  Stated for `restricted = false`, where
`unpack_attributes` cannot fail; `unpackAttributes_eq` has both modes. -/
theorem C18_unpack_prefix_invariant (m1 m2 : NsMap) (d1 d2 : Str) (attrs1 attrs2 : List Attr)
    (h : attrs1.map (fun a => (resolvedKey m1 d1 a, a.value)) = attrs2.map (fun a => (resolvedKey m2 d2 a, a.value))) :
    unpackAttributes attrs1 m1 d1 false = unpackAttributes attrs2 m2 d2 false := by
  have e1 : ∀ (m : NsMap) (d : Str) (attrs : List Attr) (acc : OD), fileAll m d acc attrs =
      (attrs.map (fun a => (resolvedKey m d a, a.value))).foldl (fun acc kv => odSet acc kv.1 kv.2) acc := by
    intro m d attrs
    induction attrs with
    | nil => intro acc; rfl
    | cons a attrs ih => intro acc; exact ih _
  simp only [unpackAttributes_eq, Bool.false_and, Bool.false_eq_true, if_false, e1, h]

def exAttr (n v : String) : Attr := ⟨⟨lit " ", 0⟩, ⟨lit n, 0⟩, ⟨lit "=", 0⟩, ⟨lit "\"", 0⟩, ⟨lit v, 0⟩⟩

/-- D-18a: with positional pairing, `<a b="1" b="2" tal:content="1"/>` kept `tal:content` (and the theorem
`C18_language_attr_dropped` was false): the witness -/
theorem C18_zip_counterexample :
    let attrs := [exAttr "b" "1", exAttr "b" "2", exAttr "tal:content" "1"]
    let ns : List ((Str × Str) × Tok) := [((XML_NS, lit "b"), ⟨lit "2", 0⟩), ((TAL, lit "content"), ⟨lit "1", 0⟩)]
    let nsOf : Attr → Str := fun a => if a.name.str = lit "tal:content" then TAL else XML_NS
    lit "tal:content" ∉ dropNames { Quirks.current with zipPairing := true } attrs nsOf ns [TAL] ∧
    lit "tal:content" ∈ dropNames Quirks.current attrs nsOf ns [TAL] := by
  decide +kernel

theorem C18_quirk_fixed : Quirks.current.zipPairing = false := rfl

end ChamVerif
