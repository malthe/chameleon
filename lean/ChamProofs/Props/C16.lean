import ChamVerif.Sys.Reload
/-! # C16 — file templates follow their files; the loader resolves names predictably -/
namespace ChamVerif.Sys

def fixed : RQuirks := { staleMacros := false }

/-- the template holds exactly version `v` -/
def Fresh (info : Nat → VersionInfo) (t : Tpl) (v : Nat) : Prop :=
  t.compiled = some v ∧ t.attrs = (info v).macros.map (fun m => (m, v)) ∧ t.contentXml = some (info v).xml

/-- invariant of an auto-reloading template: it never saw a time stamp from the future, and when it is cooked and has
seen the file's current time stamp, it holds the file's current version -/
def Inv (info : Nat → VersionInfo) (w : World) : Prop :=
  (∀ lr, w.tpl.lastRead = some lr → lr ≤ w.file.mtime) ∧
  (w.tpl.cooked = true → w.tpl.lastRead = some w.file.mtime → Fresh info w.tpl w.file.version)

/-- an operation is admissible when every change of the file moves its modification time forward
(a bare `write` that leaves the time stamp alone is what `auto_reload` cannot see) -/
def okOp (w : World) : Op → Prop
  | .write _ => False
  | .utime t => w.file.mtime < t
  | .modify _ t => w.file.mtime < t
  | _ => True

def Valid (q : RQuirks) (info : Nat → VersionInfo) : World → List Op → Prop
  | _, [] => True
  | w, op :: rest => okOp w op ∧ Valid q info (step q info w op).1 rest

/-- all that `cook_check` relies on (the last clause of the invariant): a cooked template that has seen the file's
current stamp holds the file's version -/
def Synced (info : Nat → VersionInfo) (w : World) : Prop :=
  w.tpl.cooked = true → w.tpl.lastRead = some w.file.mtime → Fresh info w.tpl w.file.version

theorem cookCheck_current (info : Nat → VersionInfo) (w : World) (ha : w.tpl.autoReload = true) (hs : Synced info w) :
    let t := cookCheck fixed info w.file w.tpl
    Fresh info t w.file.version ∧ t.cooked = true ∧ t.lastRead = some w.file.mtime ∧ t.autoReload = true := by
  unfold cookCheck
  by_cases hl : w.tpl.lastRead = some w.file.mtime
  · by_cases hc : w.tpl.cooked = true
    · simp [ha, hl, hc, hs hc hl]
    · simp [ha, hl, hc, cook, fixed, Fresh]
  · simp [ha, hl, cook, fixed, Fresh]

theorem inv_step (info : Nat → VersionInfo) (w : World) (op : Op) (ha : w.tpl.autoReload = true) (hi : Inv info w)
    (hok : okOp w op) : Inv info (step fixed info w op).1 ∧ (step fixed info w op).1.tpl.autoReload = true := by
  cases op with
  | write v => exact hok.elim
  | utime t | modify v t =>
    -- the new stamp is later than everything the template has seen
    refine ⟨⟨fun lr hlr => Nat.le_of_lt (Nat.lt_of_le_of_lt (hi.1 lr hlr) hok), fun _ hl => ?_⟩, ha⟩
    exact absurd (hi.1 t hl) (Nat.not_le_of_lt hok)
  | render | names | use m =>
    obtain ⟨hf, _, hl, ha'⟩ := cookCheck_current info w ha hi.2
    exact ⟨⟨fun lr hlr => Nat.le_of_eq (Option.some.inj (hlr.symm.trans hl)), fun _ _ => hf⟩, ha'⟩

/-! ## the specification: a file template *is* its file -/

def specStep (info : Nat → VersionInfo) (f : File) : Op → File × Obs
  | .write v => ({ f with version := v }, .none)
  | .utime t => ({ f with mtime := t }, .none)
  | .modify v t => ({ version := v, mtime := t }, .none)
  | .render => (f, .rendered f.version (some (info f.version).xml))
  | .names => (f, .names (info f.version).macros)
  | .use m => (f, .macro (if (info f.version).macros.contains m then some f.version else none))

def specRun (info : Nat → VersionInfo) : File → List Op → List Obs
  | _, [] => []
  | f, op :: rest => (specStep info f op).2 :: specRun info (specStep info f op).1 rest

theorem find_macro (ms : List String) (v : Nat) (m : String) :
    ((ms.map (fun x => (x, v))).find? (fun a => a.1 == m)).map (·.2) = if ms.contains m then some v else none := by
  induction ms with
  | nil => simp
  | cons x xs ih =>
    simp only [List.map_cons, List.find?_cons]
    by_cases h : x = m
    · subst h; simp
    · have h' : (x == m) = false := by simpa using h
      have h'' : (m == x) = false := by simpa using (fun e : m = x => h e.symm)
      simp only [h', ih, List.contains_cons, h'', Bool.false_or]

theorem step_refines (info : Nat → VersionInfo) (w : World) (op : Op) (ha : w.tpl.autoReload = true) (hs : Synced info w) :
    (step fixed info w op).2 = (specStep info w.file op).2 ∧ (step fixed info w op).1.file = (specStep info w.file op).1 := by
  obtain ⟨⟨hc, hat, hx⟩, _⟩ := cookCheck_current info w ha hs
  cases op with
  | write v | utime t | modify v t => exact ⟨rfl, rfl⟩
  | render => simp only [step, specStep, hc, hx, Option.getD_some, and_self]
  | names => simp [step, specStep, hat, Function.comp_def]
  | use m => simp only [step, specStep, hat, find_macro, and_self]

/-- **C16 (file templates follow their files)**: for every history of modifications (each moving the time stamp forward),
renders, macro listings and macro uses, an auto-reloading template observes exactly what the file holds at that
moment: body, content type and macro set of the latest version, nothing of earlier ones. -/
theorem C16_follows (info : Nat → VersionInfo) : ∀ (ops : List Op) (w : World), w.tpl.autoReload = true → Inv info w →
    Valid fixed info w ops → (run fixed info w ops).2 = specRun info w.file ops := by
  intro ops
  induction ops with
  | nil => intro w _ _ _; rfl
  | cons op rest ih =>
    intro w ha hi hv
    obtain ⟨hok, hrest⟩ := hv
    obtain ⟨hi', ha'⟩ := inv_step info w op ha hi hok
    obtain ⟨ho, hf⟩ := step_refines info w op ha hi.2
    simp only [run, specRun]
    rw [ho, ih _ ha' hi' hrest, hf]

theorem inv_init (info : Nat → VersionInfo) (f : File) : Inv info { file := f, tpl := { autoReload := true } } :=
  ⟨fun lr h => by simp at h, fun h => by simp at h⟩

def pending (w : World) : Nat := if w.tpl.cooked = true ∧ w.tpl.lastRead = some w.file.mtime then 0 else 1

def changes : List Op → Nat
  | [] => 0
  | .render :: r | .names :: r | .use _ :: r => changes r
  | _ :: r => changes r + 1

theorem cookCheck_idle (q : RQuirks) (info : Nat → VersionInfo) (f : File) (t : Tpl) (hc : t.cooked = true)
    (hl : t.lastRead = some f.mtime) : cookCheck q info f t = t := by
  unfold cookCheck
  simp [hl, hc]

theorem cookCheck_cost (q : RQuirks) (info : Nat → VersionInfo) (w : World) (ha : w.tpl.autoReload = true) :
    let t := cookCheck q info w.file w.tpl
    t.cooks + pending { w with tpl := t } ≤ w.tpl.cooks + pending w ∧ t.autoReload = true := by
  unfold cookCheck pending
  by_cases hl : w.tpl.lastRead = some w.file.mtime
  · by_cases hc : w.tpl.cooked = true
    · simp [ha, hl, hc]
    · simp [ha, hl, hc, cook]
  · simp [ha, hl, cook]

/-- `cooks + pending` is a potential: a reading step does not raise it, a change of the file raises it by at most one -/
theorem step_cost (q : RQuirks) (info : Nat → VersionInfo) (w : World) (op : Op) (rest : List Op) (ha : w.tpl.autoReload = true) :
    (step q info w op).1.tpl.cooks + pending (step q info w op).1 + changes rest ≤ w.tpl.cooks + pending w + changes (op :: rest) ∧
      (step q info w op).1.tpl.autoReload = true := by
  cases op with
  | write v | utime t | modify v t =>
    -- the template is untouched and `pending ≤ 1`
    have hp : ∀ w' : World, w'.tpl = w.tpl →
        w'.tpl.cooks + pending w' + changes rest ≤ w.tpl.cooks + pending w + (changes rest + 1) := by
      intro w' h; rw [h]; unfold pending; split <;> omega
    exact ⟨hp _ rfl, ha⟩
  | render | names | use m =>
    exact ⟨Nat.add_le_add_right (cookCheck_cost q info w ha).1 _, (cookCheck_cost q info w ha).2⟩

/-- **C16 (not recompiled while the file is unchanged)**: over any history the number of compilations is at most the
number of file changes plus the one initial compilation — a read that follows a read never compiles. -/
theorem C16_no_recompile (q : RQuirks) (info : Nat → VersionInfo) : ∀ (ops : List Op) (w : World), w.tpl.autoReload = true →
    (run q info w ops).1.tpl.cooks + pending (run q info w ops).1 ≤ w.tpl.cooks + pending w + changes ops
  | [], _, _ => Nat.le_refl _
  | op :: rest, w, ha => by
    obtain ⟨h1, ha'⟩ := step_cost q info w op rest ha
    have h2 := C16_no_recompile q info rest (step q info w op).1 ha'
    show (run q info (step q info w op).1 rest).1.tpl.cooks + pending (run q info (step q info w op).1 rest).1 ≤ _
    omega

/-- without `auto_reload` a cooked template never looks at its file again -/
theorem C16_frozen_without_autoreload (q : RQuirks) (info : Nat → VersionInfo) (f : File) (t : Tpl)
    (ha : t.autoReload = false) (hc : t.cooked = true) : cookCheck q info f t = t := by
  unfold cookCheck
  simp [ha, hc]

/-- D-16a, before the fix: after a reload that drops macro `b`, `b` is still listed and usable (old body) -/
theorem C16_stale_counterexample :
    let info : Nat → VersionInfo := fun v => if v = 1 then ⟨["a", "b"], false⟩ else ⟨["a"], false⟩
    let w0 : World := { file := ⟨1, 1⟩, tpl := { autoReload := true } }
    (run { staleMacros := true } info w0 [.render, .modify 2 2, .names, .use "b"]).2 =
      [.rendered 1 (some false), .none, .names ["b", "a"], .macro (some 1)] ∧
    (run fixed info w0 [.render, .modify 2 2, .names, .use "b"]).2 =
      [.rendered 1 (some false), .none, .names ["a"], .macro none] := by
  decide +kernel

/-- **C16 (first match along the search path)** -/
theorem C16_first_match (l : Loader) (ex : String → Bool) (spec fn : String) (hrel : isAbs (normSpec l spec) = false)
    (h : resolve l ex spec = some fn) :
    ∃ pre d post, l.searchPath = pre ++ d :: post ∧ fn = joinPath d (normSpec l spec) ∧ ex fn = true ∧
      ∀ d' ∈ pre, ex (joinPath d' (normSpec l spec)) = false := by
  unfold resolve at h
  simp only [hrel, Bool.false_eq_true, if_false, Option.map_eq_some_iff] at h
  obtain ⟨d, hd, rfl⟩ := h
  obtain ⟨hex, pre, post, hsp, hpre⟩ := List.find?_eq_some_iff_append.mp hd
  exact ⟨pre, d, post, hsp, rfl, by simpa using hex, fun d' hd' => by simpa using hpre d' hd'⟩

theorem C16_not_found (l : Loader) (ex : String → Bool) (spec : String) (hrel : isAbs (normSpec l spec) = false) :
    resolve l ex spec = none ↔ ∀ d ∈ l.searchPath, ex (joinPath d (normSpec l spec)) = false := by
  unfold resolve
  simp [hrel]

/-- absolute paths are honoured as they are -/
theorem C16_abs_path (l : Loader) (ex : String → Bool) (spec : String) (h : isAbs (normSpec l spec) = true) :
    resolve l ex spec = some (normSpec l spec) := by
  unfold resolve; simp [h]

/-- the default extension is added exactly to names without a dot -/
theorem C16_default_extension (l : Loader) (spec ext : String) (h : l.defaultExtension = some ext) :
    normSpec l spec = if spec.trimAscii.toString.contains '.' then spec.trimAscii.toString else spec.trimAscii.toString ++ ext := by
  unfold normSpec; simp [h]

theorem C16_no_default_extension (l : Loader) (spec : String) (h : l.defaultExtension = none) :
    normSpec l spec = spec.trimAscii.toString := by
  unfold normSpec; simp [h]

/-- **C16 (same instance for the same name)**: once a name is loaded, loading it again returns the same instance and
leaves the loader unchanged, whatever the file system looks like by then -/
theorem C16_same_instance (l : Loader) (ex ex' : String → Bool) (spec : String) (l' : Loader) (id : Nat) (fn : String)
    (h : load l ex spec = (l', .instance_ id fn)) :
    load l' ex' spec = (l', .instance_ id fn) := by
  unfold load at h
  cases hf : l.registry.find? (·.1 == spec) with
  | some e =>
    obtain ⟨k, i⟩ := e
    simp only [hf] at h
    cases h
    unfold load
    simp [hf]
  | none =>
    simp only [hf] at h
    cases hr : resolve l ex spec with
    | none => simp [hr] at h
    | some f =>
      simp only [hr] at h
      cases h
      unfold load
      -- the new registry entry is the first (and only) one for `spec`
      simp [List.find?_append, hf]

/-- **C16 (a `load:` expression looks next to its template first)** -/
theorem C16_relative_first (own : String) (sp : List String) (l : Loader) (ex : String → Bool) (spec : String)
    (hsp : l.searchPath = templateSearchPath true own sp) (hrel : isAbs (normSpec l spec) = false)
    (hex : ex (joinPath own (normSpec l spec)) = true) :
    resolve l ex spec = some (joinPath own (normSpec l spec)) := by
  unfold resolve
  simp [hrel, hsp, templateSearchPath, hex]

end ChamVerif.Sys
