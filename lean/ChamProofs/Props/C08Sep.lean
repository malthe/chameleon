import ChamVerif.Spec
/-! # C08 — the separator stands between consecutive repetitions, and nowhere else

On the loop of the statement semantics (`Spec.loopOf`, which the interpreter's `evalRepeat` refines: `refF_loop`): for a
body that emits a text `d`, any number of items: the output grows by `d ws d ws … d` — `ws` between two repetitions,
nothing after the last, nothing at all for an empty sequence. -/
namespace ChamVerif
open ChamVerif.Spec

/-- `n` copies of `d` with `ws` between them -/
def joined (ws d : Str) : Nat → Str
  | 0 => []
  | 1 => d
  | n + 2 => d ++ ws ++ joined ws d (n + 1)

/-- the state after `emit t` -/
def emitS (t : Str) (s : RState) : RState :=
  match s.streams with
  | top :: rest => { s with streams := (top ++ t) :: rest }
  | [] => { s with streams := [t] }

theorem emit_eq (t : Str) (s : RState) : emit t s = .ok () (emitS t s) := rfl

theorem emitS_streams (t : Str) (s : RState) (top : Str) (rest : List Str) (hs : s.streams = top :: rest) :
    (emitS t s).streams = (top ++ t) :: rest := by
  simp [emitS, hs]

/-- the state after one iteration whose body emits `d`: the loop counter, the loop variable, the text, and the separator
when more items follow -/
def afterIter (key : Str) (nm : Tok) (item : Val) (ws d : Str) (sep : Bool) (s : RState) : RState :=
  let s1 : RState := { s with env := { s.env with repeats := s.env.repeats.map (fun kr => if kr.2.tag == key then (kr.1, { kr.2 with consumed := kr.2.consumed + 1 }) else (kr.1, kr.2)) } }
  let s2 : RState := { s1 with env := { s1.env with own := (nm.str, item) :: s1.env.own.filter (·.1 != nm.str) } }
  let s3 := emitS d s2
  if sep then emitS ws s3 else s3

theorem afterIter_streams (key : Str) (nm : Tok) (item : Val) (ws d : Str) (sep : Bool) (s : RState) (top : Str) (rest : List Str)
    (hs : s.streams = top :: rest) :
    (afterIter key nm item ws d sep s).streams = (top ++ d ++ (if sep then ws else [])) :: rest := by
  unfold afterIter
  cases sep
  · simp [emitS, hs]
  · simp [emitS, hs]

theorem loop_step (key : Str) (nm : Tok) (item : Val) (more : List Val) (ws d : Str) (s : RState) :
    loopOf key [nm] true ws (emit d) (item :: more) (more.length + 1) s =
      loopOf key [nm] true ws (emit d) more more.length (afterIter key nm item ws d (decide (more.length > 0)) s) := by
  simp only [loopOf, bind, modEnv, mModify, setVar, emit_eq, Bool.not_true, Bool.false_eq_true, if_false,
    Nat.add_sub_cancel, afterIter]
  by_cases hm : more.length > 0
  · simp only [hm, if_true, decide_true]
  · simp only [hm, if_false, decide_false]
    rfl

/-- **C08 (separator)**: for every number of items, a local single-variable loop whose body emits `d` extends the output by
the `d`s joined with the separator: between two repetitions, nothing after the last one, nothing for an empty sequence -/
theorem C08_separator (key : Str) (nm : Tok) (ws d : Str) :
    ∀ (items : List Val) (s : RState) (top : Str) (rest : List Str), s.streams = top :: rest →
      ∃ s', loopOf key [nm] true ws (emit d) items items.length s = .ok () s' ∧
        s'.streams = (top ++ joined ws d items.length) :: rest := by
  intro items
  induction items with
  | nil =>
    intro s top rest hs
    exact ⟨s, rfl, by simp [joined, hs]⟩
  | cons item more ih =>
    intro s top rest hs
    rw [List.length_cons, loop_step]
    have hst := afterIter_streams key nm item ws d (decide (more.length > 0)) s top rest hs
    obtain ⟨s', hl, hstr⟩ := ih _ _ rest hst
    refine ⟨s', hl, ?_⟩
    rw [hstr]
    cases more with
    | nil => simp [joined]
    | cons i2 m2 => simp [joined, List.append_assoc]

end ChamVerif
