import ChamVerif.Build
import ChamProofs.ExceptLemmas
import ChamProofs.Props.C01
import ChamProofs.Props.C18
/-! # C01 — the order in which the statement attributes are written cannot matter

`visit_element` of the model reads a start tag through three things only: the statement dictionary
(`ns_attrs`, by key), the list of the other attributes (`prepare_attributes`, which skips the statement
attributes) and the fields of `Head`.  This file proves that all three are the same for two start tags whose
attribute lists are permutations of each other that keep the relative order of the non-statement attributes —
hence the node tree built for the element, and with it everything rendered from it, is the same. -/
namespace ChamVerif

theorem odSet_keys_nodup (d : OD) (k : Str × Str) (v : Tok) (h : (d.map (·.1)).Nodup) :
    ((odSet d k v).map (·.1)).Nodup := by
  unfold odSet
  split
  · -- replacing a value in place keeps the keys
    rw [List.map_map, List.map_congr_left (g := (·.1)) (fun e _ => by
      simp only [Function.comp]; split
      · rename_i hk; exact (beq_iff_eq.mp hk).symm
      · rfl)]
    exact h
  · rename_i hn
    rw [List.map_append, List.nodup_append]
    refine ⟨h, by simp, ?_⟩
    rintro a ha b hb rfl
    obtain ⟨e, he, rfl⟩ := List.mem_map.mp ha
    exact hn (List.any_eq_true.mpr ⟨e, he, by simpa using (List.mem_singleton.mp hb)⟩)

theorem nsGet_odSet (d : OD) (k k' : Str × Str) (v : Tok) :
    nsGet (odSet d k v) k' = if k = k' then some v else nsGet d k' := List.find?_key_set d k k' v

theorem attrNamespace_eq (m : NsMap) (d : Str) (a : Attr) : attrNamespace m d a = (attrKey m d a).1 := by
  unfold attrNamespace attrKey; split <;> simp [*]

theorem unpack_ok (m : NsMap) (d : Str) (r : Bool) (l : List Attr) (ns : OD)
    (h : unpackAttributes l m d r = .ok ns) : ns = fileAll m d [] l := by
  rw [unpackAttributes_eq] at h
  split at h
  · cases h
  · exact (Except.ok.inj h).symm

theorem fileAll_keys_nodup (m : NsMap) (d : Str) (l : List Attr) (acc : OD) (h : (acc.map (·.1)).Nodup) :
    ((fileAll m d acc l).map (·.1)).Nodup := by
  induction l generalizing acc with
  | nil => exact h
  | cons a l ih => exact ih _ (odSet_keys_nodup acc _ _ h)

/-- the value the dictionary holds for `k`: that of the last attribute filed under `k` -/
def lastVal (m : NsMap) (d : Str) (k : Str × Str) : List Attr → Option Tok
  | [] => none
  | a :: l => match lastVal m d k l with
    | some v => some v
    | none => if attrKey m d a = k then some a.value else none

theorem nsGet_fileAll (m : NsMap) (d : Str) (l : List Attr) (acc : OD) (k : Str × Str) :
    nsGet (fileAll m d acc l) k = match lastVal m d k l with | some v => some v | none => nsGet acc k := by
  induction l generalizing acc with
  | nil => rfl
  | cons a l ih =>
    show nsGet (fileAll m d (odSet acc (attrKey m d a) a.value) l) k = _
    rw [ih, nsGet_odSet]
    simp only [lastVal]
    cases lastVal m d k l with
    | some v => rfl
    | none => simp only []; split <;> rfl

theorem lastVal_none (m : NsMap) (d : Str) (k : Str × Str) (l : List Attr) :
    lastVal m d k l = none ↔ ∀ a ∈ l, attrKey m d a ≠ k := by
  induction l with
  | nil => simp [lastVal]
  | cons a l ih =>
    simp only [lastVal, List.mem_cons, forall_eq_or_imp]
    cases h : lastVal m d k l with
    | some v =>
      simp only [reduceCtorEq, false_iff, not_and]
      intro _ hall
      rw [ih.mpr hall] at h; cases h
    | none =>
      simp only []
      rw [ih] at h
      by_cases hk : attrKey m d a = k
      · simp [hk]
      · simpa [hk] using h

theorem lastVal_filter (m : NsMap) (d : Str) (k : Str × Str) (P : Attr → Bool) (l : List Attr)
    (h : ∀ a, attrKey m d a = k → P a = true) : lastVal m d k (l.filter P) = lastVal m d k l := by
  induction l with
  | nil => rfl
  | cons a l ih =>
    cases hp : P a with
    | true => simp only [List.filter_cons, hp, if_true, lastVal, ih]
    | false =>
      have hk : attrKey m d a ≠ k := fun hk => by rw [h a hk] at hp; cases hp
      simp only [List.filter_cons, hp, lastVal, hk, if_false, Bool.false_eq_true, ih]
      cases lastVal m d k l <;> rfl

theorem lastVal_perm (m : NsMap) (d : Str) (k : Str × Str) (l l' : List Attr) (hp : l'.Perm l)
    (hnd : (l'.map (attrKey m d)).Nodup) : lastVal m d k l' = lastVal m d k l := by
  induction hp with
  | nil => rfl
  | cons x _ ih =>
    simp only [List.map_cons, List.nodup_cons] at hnd
    simp only [lastVal, ih hnd.2]
  | swap x y l =>
    simp only [List.map_cons, List.nodup_cons, List.mem_cons, not_or] at hnd
    simp only [lastVal]
    cases lastVal m d k l with
    | some v => rfl
    | none =>
      simp only []
      by_cases hx : attrKey m d x = k
      · by_cases hy : attrKey m d y = k
        · exact absurd (hy.trans hx.symm) hnd.1.1
        · simp [hx, hy]
      · by_cases hy : attrKey m d y = k <;> simp [hx, hy]
  | trans h12 _ ih1 ih2 =>
    have h2 := (List.Perm.nodup_iff (List.Perm.map (attrKey m d) h12)).mp hnd
    rw [ih1 hnd, ih2 h2]

/-- a statement attribute: one whose resolved namespace is a template-language namespace -/
def isStmt (m : NsMap) (d : Str) (a : Attr) : Bool := dropNs.contains (attrKey m d a).1

/-- **the dictionary does not see the order**: if two attribute lists are permutations of each other, agree on the
sequence of their non-statement attributes, and the statement attributes have distinct keys, then every key has the
same value in both dictionaries. -/
theorem nsGet_stmtPerm (m : NsMap) (d : Str) (l l' : List Attr) (hp : l'.Perm l)
    (hothers : l'.filter (fun a => !isStmt m d a) = l.filter (fun a => !isStmt m d a))
    (hnd : ((l.filter (isStmt m d)).map (attrKey m d)).Nodup) (k : Str × Str) :
    nsGet (fileAll m d [] l') k = nsGet (fileAll m d [] l) k := by
  suffices h : lastVal m d k l' = lastVal m d k l by rw [nsGet_fileAll, nsGet_fileAll, h]
  -- only the attributes on `k`'s side of `isStmt` can be filed under `k`: on the statement side the two lists are
  -- permutations with distinct keys, on the other side they are equal
  by_cases hk : dropNs.contains k.1 = true
  · have hS : ∀ a, attrKey m d a = k → isStmt m d a = true := fun a ha => by unfold isStmt; rw [ha]; exact hk
    rw [← lastVal_filter m d k (isStmt m d) l hS, ← lastVal_filter m d k (isStmt m d) l' hS]
    have hp' : (l'.filter (isStmt m d)).Perm (l.filter (isStmt m d)) := hp.filter _
    exact lastVal_perm m d k _ _ hp' ((List.Perm.nodup_iff (hp'.map _)).mpr hnd)
  · have hS : ∀ a, attrKey m d a = k → (!isStmt m d a) = true := fun a ha => by unfold isStmt; rw [ha]; simpa using hk
    rw [← lastVal_filter m d k (fun a => !isStmt m d a) l hS, ← lastVal_filter m d k (fun a => !isStmt m d a) l' hS,
      hothers]

theorem od_perm_of_get (l l' : OD) (h : (l.map (·.1)).Nodup) (h' : (l'.map (·.1)).Nodup)
    (hget : ∀ k, nsGet l' k = nsGet l k) : l'.Perm l := by
  have nd : ∀ {l : OD}, (l.map (·.1)).Nodup → l.Nodup := fun h =>
    List.Pairwise.of_map (fun e : (Str × Str) × Tok => e.1) (fun _ _ hne heq => hne (congrArg _ heq)) h
  rw [List.perm_ext_iff_of_nodup (nd h') (nd h)]
  intro ⟨k, v⟩
  rw [mem_iff_nsGet l' h', mem_iff_nsGet l h, hget]

def decOne (rx : Rx) (e : (Str × Str) × Tok) : (Str × Str) × Tok := (decodeNsAttr rx e).getD e

theorem decOne_key (rx : Rx) (e : (Str × Str) × Tok) : (decOne rx e).1 = e.1 := by
  unfold decOne decodeNsAttr
  split
  · cases decodeEntities rx e.2.str <;> rfl
  · rfl

theorem decodeNsAttrs_eq (rx : Rx) (l : OD) :
    decodeNsAttrs rx l = if l.all (fun e => (decodeNsAttr rx e).isSome) then some (l.map (decOne rx)) else none := by
  induction l with
  | nil => rfl
  | cons e l ih =>
    simp only [decodeNsAttrs, ih, List.all_cons, List.map_cons]
    cases he : decodeNsAttr rx e with
    | none => simp
    | some e' =>
      cases hl : l.all (fun e => (decodeNsAttr rx e).isSome) with
      | false => simp
      | true => simp [decOne, he]

theorem decodeNsAttrs_perm (rx : Rx) (l l' ns : OD) (hp : l'.Perm l) (h : decodeNsAttrs rx l = some ns) :
    ∃ ns', decodeNsAttrs rx l' = some ns' ∧ ns'.Perm ns ∧ ns.map (·.1) = l.map (·.1) := by
  rw [decodeNsAttrs_eq] at h
  split at h
  · rename_i hall
    simp only [Option.some.injEq] at h
    refine ⟨l'.map (decOne rx), ?_, ?_, ?_⟩
    · rw [decodeNsAttrs_eq, hp.all_eq, hall]; rfl
    · rw [← h]; exact hp.map _
    · rw [← h, List.map_map]
      apply List.map_congr_left
      intro e _
      exact decOne_key rx e
  · cases h

/-- the statement attributes pass `validate_attributes` -/
def validOK (ns : OD) (nsp : Str) (wl : List String) : Bool :=
  ns.all (fun e => !(e.1.1 == nsp && !wl.contains e.1.2.toString))

theorem validate_ok_iff (ns names : OD) (nsp : Str) (wl : List String) :
    validateAttributes ns names nsp wl = .ok () ↔ validOK ns nsp wl = true := by
  unfold validateAttributes validOK
  rw [forM_ok_iff, List.all_eq_true]
  apply forall_congr'
  intro e
  apply imp_congr_right
  intro _
  obtain ⟨⟨n, name⟩, v⟩ := e
  by_cases hbad : (n == nsp && !wl.contains name.toString) = true
  · simp only [hbad, if_true, Bool.not_true, Bool.false_eq_true, iff_false]
    cases names.find? (·.1 == (n, name)) <;> simp
  · have hbad' : (n == nsp && !wl.contains name.toString) = false := by simpa using hbad
    simp only [hbad', Bool.false_eq_true, if_false, Bool.not_false, pure, Except.pure]

theorem liftCB_ok {α} (r : CRes α) (s : BState) (a : α) (s' : BState) :
    liftCB r s = .ok (a, s') ↔ r = .ok a ∧ s' = s := by
  unfold liftCB
  cases r with
  | error e => simp
  | ok b => simp only [Except.ok.injEq, Prod.mk.injEq]; constructor <;> (rintro ⟨h1, h2⟩; exact ⟨h1, h2.symm⟩)

theorem BM.bind_apply {α β} (m : BM α) (k : α → BM β) (s : BState) : (m >>= k) s = m s >>= fun p => k p.1 p.2 := by
  show (match m s with | .ok (a, s') => k a s' | .error e => .error e) = _
  cases m s <;> rfl

theorem BM.pure_bind {α β} (a : α) (k : α → BM β) : (pure a >>= k) = k a := rfl

theorem liftCB_bind_ok {α β} (r : CRes α) (k : α → BM β) (s : BState) (res : β × BState) :
    (liftCB r >>= k) s = .ok res ↔ ∃ a, r = .ok a ∧ k a s = .ok res := by
  simp only [BM.bind_apply, Except.bind_eq_ok, Prod.exists, liftCB_ok]
  exact ⟨fun ⟨a, _, ⟨h, rfl⟩, hk⟩ => ⟨a, h, hk⟩, fun ⟨a, h, hk⟩ => ⟨a, s, ⟨h, rfl⟩, hk⟩⟩

theorem elementPre_ok (c : BCfg) (e : Elem) (s s' : BState) (hd : c.enableDataAttributes = false)
    (ns : OD) (attrs : List Attr) :
    elementPre c e s = .ok ((ns, attrs), s') ↔
      (s' = s ∧ attrs = e.tag.attrs ∧ decodeNsAttrs c.rx e.nsAttrs = some ns ∧
       validOK ns TAL talWhitelist = true ∧ validOK ns METAL metalWhitelist = true ∧
       validOK ns I18N i18nWhitelist = true) := by
  unfold elementPre
  simp only [hd, Bool.false_eq_true, if_false, BM.pure_bind]
  cases hdec : decodeNsAttrs c.rx e.nsAttrs with
  | none => simp [bCrash, bind]
  | some ns0 =>
    simp only [liftCB_bind_ok, pure, Except.ok.injEq, Prod.mk.injEq, Option.some.injEq]
    constructor
    · rintro ⟨⟨⟩, h1, ⟨⟩, h2, ⟨⟩, h3, ⟨rfl, rfl⟩, rfl⟩
      exact ⟨rfl, rfl, rfl, (validate_ok_iff ..).mp h1, (validate_ok_iff ..).mp h2, (validate_ok_iff ..).mp h3⟩
    · rintro ⟨rfl, rfl, rfl, h1, h2, h3⟩
      exact ⟨(), (validate_ok_iff ..).mpr h1, (), (validate_ok_iff ..).mpr h2, (), (validate_ok_iff ..).mpr h3,
        ⟨rfl, rfl⟩, rfl⟩

theorem prepare_stmtPerm (q : Quirks) (hq : q.zipPairing = false) (m : NsMap) (d : Str) (l l' : List Attr)
    (ns ns' : OD) (hp : l'.Perm l)
    (hothers : l'.filter (fun a => !isStmt m d a) = l.filter (fun a => !isStmt m d a))
    (dyn : List (Option Tok × Tok)) (i18n : List (Str × Option Str)) :
    prepareAttributes q l' dyn i18n (attrNamespace m d) ns' dropNs =
    prepareAttributes q l dyn i18n (attrNamespace m d) ns dropNs := by
  -- the first loop sees the attribute list only through the attributes it keeps, and those are the same:
  suffices h : l'.filter (fun a => !(dropNames q l' (attrNamespace m d) ns' dropNs).contains a.name.str) =
      l.filter (fun a => !(dropNames q l (attrNamespace m d) ns dropNs).contains a.name.str) by
    rw [prepareAttributes_eq, prepareAttributes_eq, staticStep_fold, staticStep_fold, h]
  -- the same names are dropped on both sides …
  have hmem : ∀ x, (dropNames q l' (attrNamespace m d) ns' dropNs).contains x =
      (dropNames q l (attrNamespace m d) ns dropNs).contains x := by
    intro x
    rw [Bool.eq_iff_iff, List.contains_iff_mem, List.contains_iff_mem, mem_dropNames q hq, mem_dropNames q hq]
    exact ⟨fun ⟨a, ha, h⟩ => ⟨a, hp.mem_iff.mp ha, h⟩, fun ⟨a, ha, h⟩ => ⟨a, hp.mem_iff.mpr ha, h⟩⟩
  -- … and the statement attributes are among them, so only the others, which come in the same order, are kept
  have hstmt : ∀ (l₀ ns₀), ∀ a ∈ l₀, (!(dropNames q l₀ (attrNamespace m d) ns₀ dropNs).contains a.name.str) = true →
      (!isStmt m d a) = true := by
    intro l₀ ns₀ a ha hk
    cases hs : isStmt m d a with
    | false => rfl
    | true =>
      have := C18_language_attr_dropped l₀ (attrNamespace m d) ns₀ dropNs q hq a ha
        (by rw [isDropped, attrNamespace_eq, show dropNs.contains (attrKey m d a).1 = true from hs]; rfl)
      rw [List.contains_iff_mem.mpr this] at hk; cases hk
  rw [← List.filter_filter_of_imp (hstmt l' ns'), ← List.filter_filter_of_imp (hstmt l ns), hothers]
  exact List.filter_congr (fun a _ => by rw [hmem])

/-- two start tags that differ only in where their statement attributes are written: the same tag, the attribute
list of one is a permutation of the other's that keeps the non-statement attributes (namespace declarations included)
in their order, no statement is given twice, and `nsAttrs` is what `unpack_attributes` makes of the attributes. -/
structure StmtPerm (r : Bool) (e e' : Elem) : Prop where
  head : e'.head = e.head
  nsMap : e'.nsMap = e.nsMap
  perm : e'.tag.attrs.Perm e.tag.attrs
  others : e'.tag.attrs.filter (fun a => !isStmt e.nsMap e.ns a) = e.tag.attrs.filter (fun a => !isStmt e.nsMap e.ns a)
  distinct : ((e.tag.attrs.filter (isStmt e.nsMap e.ns)).map (attrKey e.nsMap e.ns)).Nodup
  wf : unpackAttributes e.tag.attrs e.nsMap e.ns r = .ok e.nsAttrs
  wf' : unpackAttributes e'.tag.attrs e'.nsMap e'.ns r = .ok e'.nsAttrs

theorem StmtPerm.ns_eq {r e e'} (h : StmtPerm r e e') : e'.ns = e.ns := congrArg Head.ns h.head

theorem StmtPerm.dict_perm {r e e'} (h : StmtPerm r e e') :
    e'.nsAttrs.Perm e.nsAttrs ∧ (e.nsAttrs.map (·.1)).Nodup := by
  have h1 := unpack_ok _ _ _ _ _ h.wf
  have h2 := unpack_ok _ _ _ _ _ h.wf'
  rw [h.nsMap, h.ns_eq] at h2
  have n1 : (e.nsAttrs.map (·.1)).Nodup := by rw [h1]; exact fileAll_keys_nodup _ _ _ _ List.nodup_nil
  have n2 : (e'.nsAttrs.map (·.1)).Nodup := by rw [h2]; exact fileAll_keys_nodup _ _ _ _ List.nodup_nil
  refine ⟨od_perm_of_get _ _ n1 n2 ?_, n1⟩
  intro k
  rw [h1, h2]
  exact nsGet_stmtPerm _ _ _ _ h.perm h.others h.distinct k

/-- `m'` succeeds with the same result whenever `m` succeeds.  Failures are not compared: which invalid statement attribute
`validate_attributes` reports first depends on the order, and `StmtPerm` says nothing about `nsNames`, where its error token
comes from. -/
def BLe {α} (m m' : BM α) : Prop := ∀ s res, m s = .ok res → m' s = .ok res

theorem BLe.refl {α} (m : BM α) : BLe m m := fun _ _ h => h

theorem BLe.bind {α β} {m m' : BM α} {k k' : α → BM β} (h1 : BLe m m') (h2 : ∀ a, BLe (k a) (k' a)) :
    BLe (m >>= k) (m' >>= k') := by
  intro s
  rw [BM.bind_apply, BM.bind_apply]
  exact OkLe.bind (h1 s) (fun p => h2 p.1 p.2)

theorem elementBody_mono (c : BCfg) (kids kids' : BM (List Node)) (hk : BLe kids kids') (hd : Head) (end0 : Option Elem)
    (get : Str × Str → Option Tok) (prep : List (Option Tok × Tok) → List (Str × Option Str) → Option (List PAttr)) :
    BLe (elementBody c kids hd end0 get prep) (elementBody c kids' hd end0 get prep) := by
  unfold elementBody
  exact BLe.bind (BLe.refl _) (fun post => BLe.bind hk (fun body => BLe.refl _))

/-- `visit_element` on the same start tag, or on two that differ only in where their statement attributes are written,
with related visits of the children: the first steps yield permuted dictionaries, which the rest reads through the same
lookups.  Without data attributes: a statement spelled `data-tal-…` counts among the other attributes for `isStmt`, which
looks at the resolved namespace. -/
theorem C01_element_order' (c : BCfg) (hd : c.enableDataAttributes = false) (hq : c.q.zipPairing = false)
    (kids kids' : List Item → BM (List Node)) (r : Bool) (e e' : Elem) (end0 : Option Elem) (cs cs' : List Item)
    (h : e' = e ∨ StmtPerm r e e') (hk : BLe (kids cs) (kids' cs')) :
    BLe (elementCore c kids e end0 cs) (elementCore c kids' e' end0 cs') := by
  rcases h with rfl | h
  · unfold elementCore
    exact BLe.bind (BLe.refl _) (fun pr => elementBody_mono c _ _ hk _ _ _ _)
  intro s res hok
  unfold elementCore at hok ⊢
  rw [BM.bind_apply, Except.bind_eq_ok] at hok ⊢
  obtain ⟨⟨⟨ns, attrs⟩, s1⟩, hpre, hok⟩ := hok
  obtain ⟨rfl, rfl, hdec, v1, v2, v3⟩ := (elementPre_ok c e s s1 hd ns attrs).mp hpre
  obtain ⟨hperm, hnd⟩ := h.dict_perm
  obtain ⟨ns', hdec', hp', hkeys⟩ := decodeNsAttrs_perm c.rx _ _ ns hperm hdec
  have hnd' : (ns'.map (·.1)).Nodup := by rw [List.Perm.nodup_iff (hp'.map _), hkeys]; exact hnd
  refine ⟨((ns', e'.tag.attrs), s1), (elementPre_ok c e' s1 s1 hd _ _).mpr
    ⟨rfl, rfl, hdec', hp'.all_eq.trans v1, hp'.all_eq.trans v2, hp'.all_eq.trans v3⟩, ?_⟩
  have hget : nsGet ns' = nsGet ns := funext (nsGet_perm ns' ns hp' hnd')
  have hprep : (fun dyn i18n => prepareAttributes c.q e'.tag.attrs dyn i18n (attrNamespace e'.nsMap e'.ns) ns' dropNs) =
      (fun dyn i18n => prepareAttributes c.q e.tag.attrs dyn i18n (attrNamespace e.nsMap e.ns) ns dropNs) := by
    funext dyn i18n
    rw [h.nsMap, h.ns_eq]
    exact prepare_stmtPerm c.q hq _ _ _ _ ns ns' h.perm h.others dyn i18n
  simp only [h.head, hget, hprep]
  exact elementBody_mono c _ _ hk _ _ _ _ s1 res hok

/-- **C01 (attribute order)** on the program builder: for two start tags that differ only in where their statement
attributes are written, `visit_element` builds the same node and leaves the same builder state (macros, slot lists,
whitespace, identifiers) — whenever it succeeds.  `kids`/`cs` are the visit of the children (any action). -/
theorem C01_element_order (c : BCfg) (hd : c.enableDataAttributes = false) (hq : c.q.zipPairing = false)
    (kids kids' : List Item → BM (List Node)) (r : Bool) (e e' : Elem) (end0 : Option Elem) (cs cs' : List Item)
    (h : StmtPerm r e e') (hk : kids' cs' = kids cs) (s : BState) (res : Node × BState)
    (hok : elementCore c kids e end0 cs s = .ok res) : elementCore c kids' e' end0 cs' s = .ok res :=
  C01_element_order' c hd hq kids kids' r e e' end0 cs cs' (Or.inr h) (hk ▸ BLe.refl _) s res hok

mutual
/-- two item trees that differ only in where statement attributes are written inside start tags -/
inductive ItemRel (r : Bool) : Item → Item → Prop
  | same (it : Item) : ItemRel r it it
  | startTag (e e' : Elem) : StmtPerm r e e' → ItemRel r (.startTag e) (.startTag e')
  | element (e e' : Elem) (end0 : Option Elem) (cs cs' : List Item) :
      (e' = e ∨ StmtPerm r e e') → ItemsRel r cs cs' → ItemRel r (.element e end0 cs) (.element e' end0 cs')
inductive ItemsRel (r : Bool) : List Item → List Item → Prop
  | nil : ItemsRel r [] []
  | cons (a b : Item) (as bs : List Item) : ItemRel r a b → ItemsRel r as bs → ItemsRel r (a :: as) (b :: bs)
end

theorem visitItems_rel (c : BCfg) (r : Bool) (f : Nat)
    (hitem : ∀ it it', ItemRel r it it' → BLe (visitItem c f it) (visitItem c f it')) :
    ∀ its its', ItemsRel r its its' → BLe (visitItems c f its) (visitItems c f its') := by
  intro its
  induction its with
  | nil => intro its' hrel; cases hrel; exact BLe.refl _
  | cons a as ih =>
    intro its' hrel
    cases hrel with
    | cons _ b _ bs hab hrest =>
      unfold visitItems
      exact BLe.bind (hitem a b hab) (fun n => BLe.bind (ih bs hrest) (fun ns => BLe.refl _))

theorem visit_rel (c : BCfg) (hd : c.enableDataAttributes = false) (hq : c.q.zipPairing = false) (r : Bool) :
    ∀ f, (∀ it it', ItemRel r it it' → BLe (visitItem c f it) (visitItem c f it')) := by
  intro f
  induction f with
  | zero =>
    intro it it' _ s res h
    simp [visitItem, bCrash] at h
  | succ f ihf =>
    intro it it' hrel
    cases hrel with
    | same => exact BLe.refl _
    | startTag e e' hp =>
      simp only [visitItem]
      exact BLe.bind (C01_element_order' c hd hq _ _ r e e' none [] [] (Or.inr hp) (BLe.refl _)) (fun n => BLe.refl _)
    | element e e' end0 cs cs' he hcs =>
      simp only [visitItem]
      exact BLe.bind (C01_element_order' c hd hq _ _ r e e' end0 cs cs' he (visitItems_rel c r f ihf cs cs' hcs))
        (fun n => BLe.refl _)

/-- **C01 (attribute order) for whole documents**, on the program builder: two parsed documents that differ only in
where statement attributes are written inside their start tags — at any number of elements, at any depth — build the
same program: the same body node and the same macros, whenever the first one builds. -/
theorem C01_program_order (c : BCfg) (hd : c.enableDataAttributes = false) (hq : c.q.zipPairing = false) (r : Bool)
    (f : Nat) (its its' : List Item) (hrel : ItemsRel r its its') (s : BState) (res : List Node × BState)
    (h : visitItems c f its s = .ok res) : visitItems c f its' s = .ok res :=
  visitItems_rel c r f (visit_rel c hd hq r f) its its' hrel s res h

/-! ## the hypotheses are met by what the parser produces -/

/-- every element record the parser builds satisfies the `wf` field of `StmtPerm` -/
theorem parseTag_wf (rx : Rx) (t : Tok) (m m' : NsMap) (r : Bool) (e : Elem)
    (h : parseTag rx t m r = .ok (e, m')) : unpackAttributes e.tag.attrs e.nsMap e.ns r = .ok e.nsAttrs := by
  unfold parseTag at h
  split at h
  · cases h
  · obtain ⟨nsAttrs, hu, h⟩ := Except.bind_eq_ok.mp h
    cases h
    exact hu

private def tk (s : String) (pos : Nat) : Tok := { str := lit s, pos := pos }
private def at_ (name value : String) (pos : Nat) : Attr :=
  { space := tk " " pos, name := tk name (pos + 1), eq := tk "=" (pos + 1 + name.length), quote := tk "\"" 0,
    value := tk value (pos + 3 + name.length) }
private def exAttrs : List Attr := [at_ "class" "a" 2, at_ "tal:content" "x" 12, at_ "tal:condition" "y" 28]
private def exAttrs' : List Attr := [at_ "tal:condition" "y" 28, at_ "class" "a" 2, at_ "tal:content" "x" 12]
private def exElem (attrs : List Attr) : Elem :=
  { tag := { pfx := tk "<" 0, name := tk "p" 1, suffix := some (tk ">" 46), space := some (tk "" 46), attrs := attrs,
             spans := [], restLen := 0 },
    ns := XML_NS, nsAttrs := fileAll defaultNamespaces XML_NS [] attrs, nsNames := [], nsMap := defaultNamespaces }

/-- non-vacuity: `<p class="a" tal:content="x" tal:condition="y">` and the same tag with the condition written first
are related (the attribute records carry their own source positions) -/
example : StmtPerm true (exElem exAttrs) (exElem exAttrs') where
  head := rfl
  nsMap := rfl
  perm := List.perm_append_comm (l₁ := [_]) (l₂ := [_, _])   -- a rotation
  others := by decide +kernel
  distinct := by decide +kernel
  -- `exElem` is unfolded first: left to the unifier, `fileAll` is evaluated by the elaborator, and again by the kernel
  wf := by dsimp only [exElem]; exact (unpackAttributes_eq ..).trans (if_neg (by decide +kernel))
  wf' := by dsimp only [exElem]; exact (unpackAttributes_eq ..).trans (if_neg (by decide +kernel))

end ChamVerif
