import ChamVerif.Pipeline
import ChamProofs.ExceptLemmas
/-! # C19 — strict mode changes only *when* an invalid expression is reported -/
namespace ChamVerif

theorem laxFilter_ok (r : CRes Unit) (h : laxFilter true r = .ok ()) : laxFilter false r = .ok () := by
  cases r with
  | ok u => rfl
  | error err => cases err <;> simp [laxFilter] at h

/-! The compile pass is a composition of binds, `forM`s and `foldlM`s over the expressions of the program, and the two modes
differ only in `laxFilter`: so "what strict accepts, lax accepts with the same result" (`OkLe`) is carried from
`laxFilter_ok` through the whole pass by the congruences of `OkLe`. -/

theorem compileEN_strict_ok_lax (tc : TCfg) : ∀ (f : Nat) (e : EN),
    compileEN tc true f e = .ok () → compileEN tc false f e = .ok () := by
  intro f
  induction f with
  | zero => intro e _; rfl
  | succ f ih =>
    intro e
    have ih : ∀ e, OkLe (compileEN tc true f e) (compileEN tc false f e) := fun e _ => ih e
    refine (?_ : OkLe _ _) ()
    cases e with
    | value tok | valueD tok d | subst tok a b c | boolean tok a b | interp tok a b c required tr =>
      simp only [compileEN]; exact fun _ => laxFilter_ok _
    | replace e s | translate m e | negate e => simp only [compileEN]; exact ih e
    | binop l op r => simp only [compileEN]; exact OkLe.bind (ih l) (fun _ => ih r)
    | const s | ref i | marker | cancelMarker | staticDict k | pyName n => exact OkLe.refl _

theorem compileCond_strict_ok_lax (tc : TCfg) : ∀ (f : Nat) (c : CondE),
    compileCond tc true f c = .ok () → compileCond tc false f c = .ok () := by
  intro f
  induction f with
  | zero => intro c _; rfl
  | succ f ih =>
    intro c
    refine (?_ : OkLe _ _) ()
    cases c with
    | e x => simp only [compileCond]; exact fun _ => compileEN_strict_ok_lax tc 16 x
    | and_ xs | or_ xs => simp only [compileCond]; exact OkLe.forM xs (fun x _ _ => ih x)

/-- whatever the strict compile accepts, the non-strict compile accepts with the same result -/
theorem checkNode_strict_ok_lax (tc : TCfg) : ∀ (f : Nat),
    (∀ tr n tr', checkNode tc true f tr n = .ok tr' → checkNode tc false f tr n = .ok tr') ∧
    (∀ tr ns tr', checkNodes tc true f tr ns = .ok tr' → checkNodes tc false f tr ns = .ok tr') := by
  intro f
  induction f with
  | zero => exact ⟨fun tr n tr' h => by simpa [checkNode] using h, fun tr ns tr' h => by simpa [checkNodes] using h⟩
  | succ f ih =>
    have ihN : ∀ tr n, OkLe (checkNode tc true f tr n) (checkNode tc false f tr n) := ih.1
    have ihL : ∀ tr ns, OkLe (checkNodes tc true f tr ns) (checkNodes tc false f tr ns) := ih.2
    have hEN : ∀ e, OkLe (compileEN tc true 16 e) (compileEN tc false 16 e) := fun e _ => compileEN_strict_ok_lax tc 16 e
    constructor
    · intro tr n
      refine (?_ : OkLe _ _)
      cases n with
      | text s | end_ a b c d | useInternal a | codeBlock a => simp only [checkNode]; exact OkLe.refl _
      | seq ns => simp only [checkNode]; exact ihL _ _
      | start a b c node | cancel a node | domain a node | txContext a node | defineSlot a node =>
        simp only [checkNode]; exact ihN _ _
      | «attribute» a e b c d g i | dictAttrs a e b | content e a b | interpolation e =>
        simp only [checkNode]; exact OkLe.bind (hEN e) (fun _ => OkLe.refl _)
      | target e node => simp only [checkNode]; exact OkLe.bind (hEN e) (fun _ => ihN _ _)
      | onError a fallback node => simp only [checkNode]; exact OkLe.bind (ihN _ _) (fun _ => ihN _ _)
      | translate a b node => simp only [checkNode]; exact OkLe.bind (ihN _ _) (fun _ => OkLe.refl _)
      | repeat_ a names e b c node =>
        simp only [checkNode]; exact OkLe.bind (OkLe.refl _) (fun _ => OkLe.bind (hEN e) (fun _ => ihN _ _))
      | cache es node =>
        simp only [checkNode]; exact OkLe.bind (OkLe.forM es (fun x _ => hEN x.2)) (fun _ => ihN _ _)
      | element st en ct =>
        simp only [checkNode]
        refine OkLe.bind (ihN _ _) (fun _ => OkLe.bind (ihN _ _) (fun _ => ?_))
        cases en with
        | none => exact OkLe.refl _
        | some e => exact ihN _ _
      | condition c node orelse =>
        simp only [checkNode]
        refine OkLe.bind (fun _ => compileCond_strict_ok_lax tc 16 c) (fun _ => OkLe.bind (ihN _ _) (fun _ => ?_))
        cases orelse with
        | none => exact OkLe.refl _
        | some o => exact ihN _ _
      | define assigns node =>
        simp only [checkNode]
        refine OkLe.bind (OkLe.forM assigns (fun a _ => ?_)) (fun _ => ihN _ _)
        cases a with
        | alias nm e => exact hEN e
        | assign names e l => exact OkLe.bind (OkLe.refl _) (fun _ => hEN e)
      | name nm node =>
        simp only [checkNode]
        cases tr with
        | nil => exact OkLe.refl _
        | cons top rest => simp only; split; exact OkLe.refl _; exact ihN _ _
      | useExternal e slots ext =>
        simp only [checkNode]
        exact OkLe.bind (OkLe.foldlM slots tr (fun _ _ _ => ihN _ _)) (fun _ => OkLe.bind (hEN e) (fun _ => OkLe.refl _))
    · intro tr ns
      refine (?_ : OkLe _ _)
      cases ns with
      | nil => simp only [checkNodes]; exact OkLe.refl _
      | cons n ns => simp only [checkNodes]; exact OkLe.bind (ihN _ _) (fun _ => ihL _ _)

theorem compileCheck_strict_ok_lax (tc : TCfg) (fuel : Nat) (macros : List (Str × Node)) (node : Node)
    (h : compileCheck tc true fuel macros node = .ok ()) : compileCheck tc false fuel macros node = .ok () :=
  have hN : ∀ tr n, OkLe (checkNode tc true fuel tr n) (checkNode tc false fuel tr n) := (checkNode_strict_ok_lax tc fuel).1
  (OkLe.bind (OkLe.foldlM macros [] (fun _ _ _ => hN _ _)) (fun _ => OkLe.bind (hN _ _) (fun _ => OkLe.refl _)) :
    OkLe (compileCheck tc true fuel macros node) (compileCheck tc false fuel macros node)) () h

/-- the request with the `strict` flag set -/
def RenderReq.withStrict (r : RenderReq) (b : Bool) : RenderReq := { r with strict := b }

/-- **C19 (same when valid)**: if strict compilation accepts the template, non-strict compilation
renders exactly the same outcome — for every template, configuration and binding. -/
theorem C19_same_when_valid (r : RenderReq)
    (hok : ∀ node macros, buildProgram
        { r.bcfg with booleanAttrs := (match r.booleanAttrs with | some b => b | none => if (r.xmlMode.getD (isXmlDoc r.src) && !r.textMode) then [] else r.htmlBooleans),
                      escape := !r.textMode } r.textMode
        (if r.xmlMode.getD (isXmlDoc r.src) then r.src else normalizeNewlines r.src) = .ok (node, macros) →
      compileCheck { rx := r.bcfg.rx, q := r.bcfg.q, oracle := r.oracle, decodeInterp := !r.textMode } true
        (8 * (if r.xmlMode.getD (isXmlDoc r.src) then r.src else normalizeNewlines r.src).length + 64) macros node = .ok ()) :
    render (r.withStrict false) = render (r.withStrict true) := by
  unfold render RenderReq.withStrict
  simp only
  split
  · rfl
  · rfl
  · rfl
  · rename_i node macros hb
    have h := hok node macros hb
    simp only [h, compileCheck_strict_ok_lax _ _ _ _ h]

/-- **C19 (strict mode rejects)**: an expression that does not compile makes the strict compile pass fail with exactly
that `ExpressionError` (class, message, token) -/
theorem C19_strict_rejects (tc : TCfg) (f : Nat) (tok etok : Tok) (msg : String)
    (h : compileTales tc 64 tok = .error (.template "ExpressionError" msg etok)) :
    compileEN tc true (f + 1) (.value tok) = .error (.template "ExpressionError" msg etok) := by
  simp [compileEN, laxFilter, h, bind, Except.bind]

/-- **C19 (lax mode accepts)**: the non-strict compile pass accepts an expression that does not compile … -/
theorem C19_lax_accepts (tc : TCfg) (f : Nat) (tok etok : Tok) (msg : String)
    (h : compileTales tc 64 tok = .error (.template "ExpressionError" msg etok)) :
    compileEN tc false (f + 1) (.value tok) = .ok () := by
  simp [compileEN, laxFilter, h, bind, Except.bind, pure, Except.pure]

/-- **C19 (deferred error)**: … and raises the same `ExpressionError`, with the token of the invalid expression
recorded, exactly when the expression is evaluated — nothing is evaluated, logged or output before -/
theorem C19_deferred_error (cfg : ECfg) (al : List (Str × Val)) (env : Env) (tok etok : Tok) (msg : String) (esc : Esc)
    (d : Option Str) (x : XState)
    (h : compileTales cfg.tc 64 tok = .error (.template "ExpressionError" msg etok)) :
    evalValue cfg al env tok esc d x =
      .raised { cls := "ExpressionError", msg := Str.ofString msg } { x with token := some (etok.pos, etok.str.length) } := by
  simp [evalValue, compileAt, h, bind, xSetTokenRaw, xRaise]

end ChamVerif
