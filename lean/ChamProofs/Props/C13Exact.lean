import ChamProofs.Grows
/-! # C13 on the whole interpreter: the fallback replaces exactly the failed element's output -/
namespace ChamVerif
open ChamVerif.Out

/-- **rendering only appends**: for every node, scope, state and fuel — whatever was on the output stack before is
still there afterwards, with the current stream extended at its end (when the evaluation raises there may be
unfinished sub-streams on top) -/
theorem good_eval (cfg : ECfg) (hq : cfg.tc.q.sharedFallbackVar = false) (al : List (Str × Val)) (f : Nat) (node : Node) :
    Good (eval cfg al f node) := (good_all cfg hq f).1 al node

/-- **C13 (exact replacement)**: if the guarded element raises an `Exception` — after emitting anything, at any depth,
inside any number of unfinished translation sub-streams — then `tal:on-error` continues with the fallback from a
state whose output is *exactly* what it was before the element (prefix untouched, partial output discarded), with
`error` bound and the handler called once; the rest of the element's effect on the output is the fallback's; the error records of the handled failure are dropped
(what the list held when the element was entered stays). -/
theorem C13_exact (cfg : ECfg) (hq : cfg.tc.q.sharedFallbackVar = false) (al : List (Str × Val)) (f id : Nat)
    (fallback node : Node) (s sb : RState) (top : Str) (rest : List Str) (ex : Exc)
    (hs : s.streams = top :: rest)
    (hbody : eval cfg al f node (onErrorEnter id s) = .raised ex sb)
    (hexc : isSubclass cfg ex.cls ["Exception"] = true) :
    ∃ s2, s2.streams = top :: rest ∧ s2.handled = sb.handled + 1 ∧
      (∃ pos, s2.env.get (lit "error") = some (Val.errorInfo ex.cls ex.msg pos) ∧ pos.isSome = sb.x.token.isSome) ∧
      s2.errs = sb.errs.extract 0 s.errs.size ∧
      eval cfg al (f + 1) (.onError id fallback node) s = eval cfg al f fallback s2 := by
  obtain ⟨extra, δ, hδ⟩ := ((good_eval cfg hq al f node).at_ (onErrorEnter id s) top rest (by simpa [onErrorEnter] using hs)).2 ex sb hbody
  -- the handler always runs
  obtain ⟨s2, ho⟩ : ∃ s2, onErrorHandle cfg id s.streams.length (s.streams.headD []).length ex sb = some s2 := ⟨_, rfl⟩
  have ho' : onErrorHandle cfg id (1 + rest.length) top.length ex sb = some s2 := by
    rw [← ho, hs]; simp [Nat.add_comm]
  obtain ⟨hx, hh, _⟩ := C13_handler_exact cfg hq id top δ rest extra ex sb s2 hδ ho'
  have herrs : s2.errs = sb.errs := by cases ho; rfl
  refine ⟨{ s2 with tmaps := s2.tmaps.drop (s2.tmaps.length - s.tmaps.length), errs := s2.errs.extract 0 s.errs.size },
    hx, hh, C13_error_bound cfg id _ _ ex sb s2 ho, by rw [herrs], ?_⟩
  exact onErrorOf_handled cfg id _ _ s (by simp [hq]) hbody hexc ho

/-- no failure: the element renders as without `tal:on-error` -/
theorem C13_pass_through (cfg : ECfg) (hq : cfg.tc.q.sharedFallbackVar = false) (al : List (Str × Val)) (f id : Nat)
    (fallback node : Node) (s s' : RState)
    (hbody : eval cfg al f node (onErrorEnter id s) = .ok () s') :
    eval cfg al (f + 1) (.onError id fallback node) s = .ok () s' :=
  onErrorOf_ok cfg id _ _ s (by simp [hq]) hbody

/-- exceptions outside the `Exception` hierarchy are not handled -/
theorem C13_base_exception_propagates (cfg : ECfg) (hq : cfg.tc.q.sharedFallbackVar = false) (al : List (Str × Val)) (f id : Nat)
    (fallback node : Node) (s sb : RState) (ex : Exc)
    (hbody : eval cfg al f node (onErrorEnter id s) = .raised ex sb)
    (hexc : isSubclass cfg ex.cls ["Exception"] = false) :
    eval cfg al (f + 1) (.onError id fallback node) s = .raised ex sb :=
  onErrorOf_unhandled cfg id _ _ s (by simp [hq]) hbody hexc

/-- **C12 (a handled failure leaves no record)**: the fallback of `tal:on-error` starts with at most the error records
the list held when the element was entered — whatever the functions the exception passed through (macros, slot
fillers) appended is dropped, so a later failure is reported alone (the behaviour of /repo after the D-12b fix) -/
theorem C12_handled_records_dropped (cfg : ECfg) (hq : cfg.tc.q.sharedFallbackVar = false) (al : List (Str × Val)) (f id : Nat)
    (fallback node : Node) (s sb : RState) (top : Str) (rest : List Str) (ex : Exc)
    (hs : s.streams = top :: rest)
    (hbody : eval cfg al f node (onErrorEnter id s) = .raised ex sb)
    (hexc : isSubclass cfg ex.cls ["Exception"] = true) :
    ∃ s2, s2.errs.size ≤ s.errs.size ∧ s2.errs = sb.errs.extract 0 s.errs.size ∧
      eval cfg al (f + 1) (.onError id fallback node) s = eval cfg al f fallback s2 := by
  obtain ⟨s2, _, _, _, herr, hev⟩ := C13_exact cfg hq al f id fallback node s sb top rest ex hs hbody hexc
  refine ⟨s2, ?_, herr, hev⟩
  rw [herr, Array.size_extract]
  omega

end ChamVerif
