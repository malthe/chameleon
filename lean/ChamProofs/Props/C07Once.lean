import ChamVerif.Static
import ChamProofs.Props.C07
import ChamProofs.ListLemmas
/-! # C07 — an attribute name is rendered at most once

`prepare_attributes` keeps, next to the list of prepared attributes, an index from lower-cased names to positions.
`Indexed` is the invariant that ties the two together; it holds after each of the three phases (static attributes,
`tal:attributes`, `i18n:attributes`), and it implies that no two entries of the result carry the same name, compared
case-insensitively — provided the start tag itself does not write a name twice. -/
namespace ChamVerif

structure Indexed (acc : PAcc) : Prop where
  keys : (acc.2.map (·.1)).Nodup
  sound : ∀ n i, (n, i) ∈ acc.2 → ∃ k : Nat, i = (k : Int) ∧ ∃ p, acc.1[k]? = some p ∧ ∃ nm, p.name = some nm ∧ lowerStr nm = n
  complete : ∀ (k : Nat) p nm, acc.1[k]? = some p → p.name = some nm → (lowerStr nm, (k : Int)) ∈ acc.2

theorem indexed_nil : Indexed (([], []) : PAcc) :=
  ⟨List.nodup_nil, fun _ _ h => (by cases h), fun k p nm h => (by simp at h)⟩

/-- **at most once**: two entries with the same name (case-insensitively) are the same entry -/
theorem Indexed.once {acc : PAcc} (h : Indexed acc) (k k' : Nat) (p p' : PAttr) (nm nm' : Str)
    (hk : acc.1[k]? = some p) (hk' : acc.1[k']? = some p') (hn : p.name = some nm) (hn' : p'.name = some nm')
    (heq : lowerStr nm = lowerStr nm') : k = k' := by
  have h1 := h.complete k p nm hk hn
  have h2 := h.complete k' p' nm' hk' hn'
  rw [← heq] at h2
  have := Option.some.inj ((List.find?_key_of_mem h.keys h1).symm.trans (List.find?_key_of_mem h.keys h2))
  omega

theorem lookupNorm_none {l : List (Str × Int)} {n : Str} (h : prepareAttributes.lookupNorm l n = none) :
    n ∉ l.map (·.1) := by
  rintro hm
  obtain ⟨x, hx, rfl⟩ := List.mem_map.mp hm
  exact List.find?_eq_none.mp (Option.map_eq_none_iff.mp h) x hx (by simp)

/-- the position the loops record for an entry they append (`len(attributes) - 1` after the append) -/
theorem length_concat_sub_one {α} (l : List α) (a : α) : (((l ++ [a]).length : Nat) : Int) - 1 = (l.length : Int) := by
  simp only [List.length_append, List.length_singleton]; omega

theorem Indexed.append_new {acc : PAcc} (h : Indexed acc) (pa : PAttr) (nm : Str) (hn : pa.name = some nm)
    (hnew : lowerStr nm ∉ acc.2.map (·.1)) :
    Indexed (acc.1 ++ [pa], (lowerStr nm, (acc.1.length : Int)) :: acc.2) := by
  refine ⟨List.nodup_cons.mpr ⟨hnew, h.keys⟩, ?_, ?_⟩
  · intro n i hm
    rcases List.mem_cons.mp hm with h1 | h1
    · cases h1
      exact ⟨acc.1.length, rfl, pa, List.getElem?_concat_eq_some.mpr (Or.inr ⟨rfl, rfl⟩), nm, hn, rfl⟩
    · obtain ⟨k, hk, p, hp, rest⟩ := h.sound n i h1
      exact ⟨k, hk, p, List.getElem?_concat_eq_some.mpr (Or.inl hp), rest⟩
  · intro k p nm' hk hnm'
    rcases List.getElem?_concat_eq_some.mp hk with hk | ⟨rfl, rfl⟩
    · exact List.mem_cons_of_mem _ (h.complete k p nm' hk hnm')
    · cases hn.symm.trans hnm'; exact List.mem_cons_self

theorem Indexed.append_anon {acc : PAcc} (h : Indexed acc) (pa : PAttr) (hn : pa.name = none) :
    Indexed (acc.1 ++ [pa], acc.2) := by
  refine ⟨h.keys, ?_, ?_⟩
  · intro n i hm
    obtain ⟨k, hk, p, hp, rest⟩ := h.sound n i hm
    exact ⟨k, hk, p, List.getElem?_concat_eq_some.mpr (Or.inl hp), rest⟩
  · intro k p nm' hk hnm'
    rcases List.getElem?_concat_eq_some.mp hk with hk | ⟨rfl, rfl⟩
    · exact h.complete k p nm' hk hnm'
    · cases hn.symm.trans hnm'

theorem Indexed.set_same {acc : PAcc} (h : Indexed acc) (k : Nat) (old pa : PAttr) (nm nm' : Str)
    (hk : acc.1[k]? = some old) (ho : old.name = some nm) (hn : pa.name = some nm') (hl : lowerStr nm' = lowerStr nm) :
    Indexed (acc.1.set k pa, acc.2) := by
  have hlt : k < acc.1.length := (List.getElem?_eq_some_iff.mp hk).1
  have hnew : (acc.1.set k pa)[k]? = some pa := by rw [List.getElem?_set_self hlt]
  refine ⟨h.keys, ?_, ?_⟩
  · intro n i hm
    obtain ⟨j, hj, p, hp, nm0, hnm0, hl0⟩ := h.sound n i hm
    by_cases hjk : j = k
    · subst hjk
      cases hk.symm.trans hp
      cases ho.symm.trans hnm0
      exact ⟨j, hj, pa, hnew, nm', hn, hl.trans hl0⟩
    · exact ⟨j, hj, p, by rw [List.getElem?_set_ne (Ne.symm hjk)]; exact hp, nm0, hnm0, hl0⟩
  · intro j p nm0 hj hnm0
    by_cases hjk : j = k
    · subst hjk
      cases hnew.symm.trans hj
      cases hn.symm.trans hnm0
      exact hl ▸ h.complete j old nm hk ho
    · rw [List.getElem?_set_ne (Ne.symm hjk)] at hj
      exact h.complete j p nm0 hj hnm0

theorem phase1_indexed : ∀ (L : List Attr) (acc : PAcc), (L.map (fun a => lowerStr a.name.str)).Nodup → Indexed acc →
    (∀ a ∈ L, lowerStr a.name.str ∉ acc.2.map (·.1)) →
    Indexed (L.foldl (fun (acc : List PAttr × List (Str × Int)) a =>
        let pa : PAttr := ⟨some a.name.str, some a.value, a.quote.str, a.space.str, a.eq.str, none⟩
        let l := acc.1 ++ [pa]
        (l, (lowerStr a.name.str, (l.length : Int) - 1) :: acc.2.filter (·.1 != lowerStr a.name.str))) acc) := by
  intro L
  induction L with
  | nil => intro acc _ h _; exact h
  | cons a L ih =>
    intro acc hnd h hnew
    simp only [List.map_cons, List.nodup_cons] at hnd
    simp only [List.foldl_cons]
    have hna : lowerStr a.name.str ∉ acc.2.map (·.1) := hnew a List.mem_cons_self
    rw [List.filter_key_ne_self _ _ hna, length_concat_sub_one]
    apply ih _ hnd.2 (h.append_new _ a.name.str rfl hna)
    intro b hb
    simp only [List.map_cons, List.mem_cons, not_or]
    refine ⟨?_, hnew b (List.mem_cons_of_mem _ hb)⟩
    intro he
    exact hnd.1 (he ▸ List.mem_map.mpr ⟨b, hb, rfl⟩)

theorem prepareAttributes_indexed (q : Quirks) (hq : q.attrIndexOffByOne = false) {attrs : List Attr}
    {dyn : List (Option Tok × Tok)} {i18nAttrs : List (Str × Option Str)} {nsOf : Attr → Str}
    {ns : List ((Str × Str) × Tok)} {dropNs : List Str} {res : List PAttr}
    (hstatic : ((attrs.filter (fun a => !(dropNames q attrs nsOf ns dropNs).contains a.name.str)).map
      (fun a => lowerStr a.name.str)).Nodup)
    (hdyn : ∀ d ∈ dyn, ∀ n, d.1 = some n → n.str.isEmpty = false)
    (h : prepareAttributes q attrs dyn i18nAttrs nsOf ns dropNs = some res) : ∃ acc, Indexed acc ∧ acc.1 = res := by
  refine prepareAttributes_inv Indexed h ?_ ?_ ?_
  · rw [staticStep_fold]
    exact phase1_indexed _ ([], []) hstatic indexed_nil (fun _ _ => by simp)
  · intro b d b' hd hb hstep
    obtain ⟨name, expr⟩ := d
    unfold dynStep at hstep
    cases name with
    | none => cases hstep; exact hb.append_anon _ rfl
    | some n =>
      -- an empty name is never looked up (`if name` in `prepare_attributes`), so each one is appended anew: `hdyn`
      simp only [hdyn _ hd n rfl, Bool.false_eq_true, if_false, Option.map_some] at hstep
      cases hl : prepareAttributes.lookupNorm b.2 (lowerStr n.str) with
      | none =>
        simp only [hl, hq, Bool.false_eq_true, if_false, Option.some.injEq] at hstep
        subst hstep
        have hnew := lookupNorm_none hl
        rw [List.filter_key_ne_self _ _ hnew]
        exact hb.append_new _ n.str rfl hnew
      | some i =>
        simp only [hl] at hstep
        obtain ⟨j, hj, old, hold, nm0, hnm0, hl0⟩ := hb.sound _ _ (List.mem_of_find?_key hl)
        have hlt : j < b.1.length := (List.getElem?_eq_some_iff.mp hold).1
        rw [hj, pyIndex_nonneg _ _ hlt] at hstep
        cases hstep
        exact hb.set_same j old _ nm0 n.str hold hnm0 rfl hl0.symm
  · intro b a _ hb
    simp only [i18nStep]
    cases hl : prepareAttributes.lookupNorm b.2 (lowerStr a.1) with
    | some i => exact hb
    | none =>
      simp only [Option.isSome_none, Bool.false_eq_true, if_false]
      rw [length_concat_sub_one]
      exact hb.append_new _ a.1 rfl (lookupNorm_none hl)

/-- **C07 (at most once)**: in the attribute list `prepare_attributes` hands to the emitters no two entries carry
the same name, compared case-insensitively — a `tal:attributes` entry that targets a name already present replaces
that entry in place, an `i18n:attributes` name already present adds nothing — whenever the start tag itself does not
write a (kept) name twice.  For every attribute list, `tal:attributes` list and `i18n:attributes` list. -/
theorem C07_name_once (q : Quirks) (hq : q.attrIndexOffByOne = false) (attrs : List Attr) (dyn : List (Option Tok × Tok))
    (i18nAttrs : List (Str × Option Str)) (nsOf : Attr → Str) (ns : List ((Str × Str) × Tok)) (dropNs : List Str)
    (res : List PAttr)
    (hstatic : ((attrs.filter (fun a => !(dropNames q attrs nsOf ns dropNs).contains a.name.str)).map
      (fun a => lowerStr a.name.str)).Nodup)
    (hdyn : ∀ d ∈ dyn, ∀ n, d.1 = some n → n.str.isEmpty = false)
    (h : prepareAttributes q attrs dyn i18nAttrs nsOf ns dropNs = some res)
    (k k' : Nat) (p p' : PAttr) (nm nm' : Str)
    (hk : res[k]? = some p) (hk' : res[k']? = some p') (hn : p.name = some nm) (hn' : p'.name = some nm')
    (heq : lowerStr nm = lowerStr nm') : k = k' := by
  obtain ⟨acc, hacc, rfl⟩ := prepareAttributes_indexed q hq hstatic hdyn h
  exact hacc.once k k' p p' nm nm' hk hk' hn hn' heq

private def tk (s : String) (pos : Nat) : Tok := { str := lit s, pos := pos }
private def exA : Attr := { space := tk " " 2, name := tk "class" 3, eq := tk "=" 8, quote := tk "\"" 9, value := tk "a" 10 }

/-- the hypotheses are met, and the replacement happens in place: `<p class="a" tal:attributes="CLASS x" i18n:attributes="Class">`
has one entry for the three spellings -/
example : prepareAttributes Quirks.current [exA] [(some (tk "CLASS" 30), tk "x" 36)] [(lit "Class", none)] (fun _ => lit "")
      [] dropNs = some [⟨some (lit "CLASS"), some (tk "a" 10), lit "\"", lit " ", lit "=", some (tk "x" 36)⟩] ∧
    Quirks.current.attrIndexOffByOne = false := by decide +kernel

end ChamVerif
