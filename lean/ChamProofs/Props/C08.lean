import ChamVerif.PExpr
/-! # C08 — tal:repeat exposes correct repeat variables: index, number, length, start, end, letter / Letter, roman / Roman
(`odd`, `even` and `parity` are in the model, `repItemAttr`; no theorem here speaks of them) -/
namespace ChamVerif

/-- **tie**: the numeral table of the model is `RepeatItem.Roman`'s default table in /repo today -/
theorem C08_romanTable_tie : romanTable = Gen.romanTable := by decide

/-- value denoted by a decomposition -/
def decompValue (d : List (Nat × Nat × String)) : Nat := (d.map (fun (c, v, _) => c * v)).sum

theorem romanDecomp_value : ∀ (tbl : List (Nat × String)) (n : Nat),
    decompValue (romanDecomp tbl n) + (tbl.foldl (fun (m : Nat) (e : Nat × String) => m % e.1) n) = n := by
  intro tbl
  induction tbl with
  | nil => intro n; simp [romanDecomp, decompValue]
  | cons e tbl ih =>
    intro n
    obtain ⟨v, r⟩ := e
    simp only [romanDecomp, decompValue, List.map_cons, List.sum_cons, List.foldl_cons]
    have := ih (n % v)
    simp only [decompValue] at this
    have hdm := Nat.div_add_mod n v
    rw [Nat.mul_comm] at hdm
    omega

theorem foldl_mod_unit (tbl : List (Nat × String)) (r : String) (n : Nat) :
    (tbl ++ [(1, r)]).foldl (fun (m : Nat) (e : Nat × String) => m % e.1) n = 0 := by
  simp [List.foldl_append, Nat.mod_one]

/-- **C08 (roman)**: for *every* position, the numerals emitted denote exactly `index + 1`:
the counts of the greedy decomposition times their values add up to the number. -/
theorem C08_roman_value (n : Nat) : decompValue (romanDecomp romanTable n) = n := by
  have h := romanDecomp_value romanTable n
  have hz : romanTable.foldl (fun (m : Nat) (e : Nat × String) => m % e.1) n = 0 :=
    foldl_mod_unit (romanTable.dropLast) "I" n   -- `romanTable.dropLast ++ [(1, "I")]` is `romanTable` by evaluation
  omega

/-- the text is the numerals repeated by their counts, in table order -/
theorem C08_roman_text (n : Nat) :
    roman n = ((romanDecomp romanTable n).map (fun (c, _, r) => (List.replicate c (Str.ofString r)).flatten)).flatten := rfl

/-- canonical form below 4000: every subtractive numeral and every 5-unit at most once, units at most 3 times -/
def canonicalCounts (d : List (Nat × Nat × String)) : Bool :=
  d.all (fun (c, v, _) => if v == 1000 then true else if v == 100 || v == 10 || v == 1 then c ≤ 3 else c ≤ 1)

theorem roman_canonical (n : Nat) : canonicalCounts (romanDecomp romanTable n) = true := by
  -- a count is what the larger values leave over, divided by its own value, and they leave less than the value before:
  -- twelve bounds `n % 1000 / 900 ≤ 1`, …, `n % 10 % 9 % 5 % 4 ≤ 3` (the thousands are not restricted, so any `n` will do)
  simp [canonicalCounts, romanDecomp, romanTable]
  omega

theorem C08_roman_canonical_lt_4000 : (List.range 4000).all (fun n => canonicalCounts (romanDecomp romanTable n)) = true :=
  List.all_eq_true.mpr fun n _ => roman_canonical n

/-- base-26 value of a letter string -/
def lettersValue (base : Nat) (s : Str) : Nat := s.foldl (fun acc c => acc * 26 + (c - base)) 0

theorem letterFrom_digits (base : Nat) : ∀ (f index : Nat) (acc : Str), index < f →
    ∃ d, letterFrom base f index acc = d ++ acc ∧ d ≠ [] ∧ lettersValue base d = index ∧
      ∀ c ∈ d, base ≤ c ∧ c < base + 26 := by
  intro f
  induction f with
  | zero => intro index acc h; omega
  | succ f ih =>
    intro index acc h
    simp only [letterFrom]
    by_cases h0 : (index / 26 == 0) = true
    · simp only [h0, if_true]
      have hlt : index < 26 := by
        have : index / 26 = 0 := by simpa using h0
        omega
      refine ⟨[base + index % 26], by simp, by simp, ?_, ?_⟩
      · simp [lettersValue, Nat.mod_eq_of_lt hlt]
      · intro c hc; simp at hc; subst hc; omega
    · simp only [h0, Bool.false_eq_true, if_false]
      have hne : index / 26 ≠ 0 := by simpa using h0
      have hlt : index / 26 < f := by omega
      obtain ⟨d, hd, hdne, hv, hr⟩ := ih (index / 26) ((base + index % 26) :: acc) hlt
      refine ⟨d ++ [base + index % 26], by simp [hd], by simp, ?_, ?_⟩
      · simp only [lettersValue, List.foldl_append, List.foldl_cons, List.foldl_nil] at hv ⊢
        rw [hv]
        have := Nat.div_add_mod index 26
        omega
      · intro c hc
        simp only [List.mem_append, List.mem_singleton] at hc
        rcases hc with hc | hc
        · exact hr c hc
        · subst hc; omega

/-- **C08 (letter)**: for every position `i`, `letter` is the base-26 positional spelling of `i`
(digits `a…z`, most significant first, at least one digit); `Letter` likewise with `A…Z`. -/
theorem C08_letter (base i : Nat) :
    lettersValue base (letterFrom base (i + 2) i []) = i ∧ letterFrom base (i + 2) i [] ≠ [] ∧
    ∀ c ∈ letterFrom base (i + 2) i [], base ≤ c ∧ c < base + 26 := by
  obtain ⟨d, hd, hne, hv, hr⟩ := letterFrom_digits base (i + 2) i [] (by omega)
  simp only [List.append_nil] at hd
  rw [hd]
  exact ⟨hv, hne, hr⟩

/-- **C08 (position)**: at the `i`-th iteration (`consumed = i + 1`) of a loop over `len` items -/
theorem C08_index (len i : Nat) :
    let r : RepItem := { length := len, consumed := i + 1 }
    r.index = i := by
  simp [RepItem.index]

theorem C08_attrs (len i : Nat) (hi : i < len) :
    let r : RepItem := { length := len, consumed := i + 1 }
    (∀ s, repItemAttr r "index" s = (.ok (.cint i), s)) ∧
    (∀ s, repItemAttr r "number" s = (.ok (.cint (i + 1)), s)) ∧
    (∀ s, repItemAttr r "length" s = (.ok (.int len), s)) ∧
    (∀ s, repItemAttr r "start" s = (.ok (.cint (if i = 0 then 1 else 0)), s)) ∧
    (∀ s, repItemAttr r "end" s = (.ok (.cint (if i + 1 = len then 1 else 0)), s)) := by
  simp only [repItemAttr, RepItem.index]
  refine ⟨?_, ?_, ?_, ?_, ?_⟩ <;> intro s <;> simp [Pure.pure] <;> (try omega)

end ChamVerif
