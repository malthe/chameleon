import ChamProofs.RunLemmas
/-! # C09 — METAL: what the interpreter model does at a slot, and what survives a macro call -/
namespace ChamVerif

/-- **C09 (a slot without filler keeps its default content)** -/
theorem C09_slot_default (cfg : ECfg) (al : List (Str × Val)) (f : Nat) (nm : Tok) (node : Node) (s : RState)
    (h : lookupAssoc s.env.topFrame.slotFns (mangleName nm.str) = none ∨
         lookupAssoc s.env.topFrame.slotFns (mangleName nm.str) = some none) :
    eval cfg al (f + 1) (.defineSlot nm node) s = eval cfg al f node s :=
  slotOf_default cfg f nm _ s h

/-- **C09 (a filled slot renders the caller's filler, and only that)**: the filler's node is evaluated with the aliases,
cached values, i18n settings and slot variables of the place where it was written, in a copy of the macro's scope;
afterwards the macro has its own frames again, its variables updated with what the filler defined globally (`C09_filler_scope`),
and `__token` unset; the filler's local variables are gone -/
theorem C09_slot_filled (cfg : ECfg) (al : List (Str × Val)) (f : Nat) (nm : Tok) (node : Node) (s : RState) (cid : Nat)
    (cl : Closure) (h : lookupAssoc s.env.topFrame.slotFns (mangleName nm.str) = some (some cid))
    (hc : s.closures[cid]? = some cl) :
    (∀ s', eval cfg cl.al f cl.node (fillerEnter cl s) = .ok () s' →
      eval cfg al (f + 1) (.defineSlot nm node) s = .ok () (fillerLeave s s')) ∧
    (∀ ex s', eval cfg cl.al f cl.node (fillerEnter cl s) = .raised ex s' →
      eval cfg al (f + 1) (.defineSlot nm node) s = .raised ex (fillerRaise s s')) := by
  rw [eval_defineSlot, slotOf_filled cfg f nm _ s h hc]
  exact ⟨fun s' hr => by rw [hr], fun ex s' hr => by rw [hr]⟩

theorem C09_filler_scope (cl : Closure) (s s' : RState) :
    (fillerLeave s s').env.own = updateOwn s.env.own s'.env.rcontext ∧ (fillerLeave s s').env.frames = s.env.frames ∧
    (fillerLeave s s').x.token = none ∧ (fillerEnter cl s).env.own = s.env.own ∧
    (fillerEnter cl s).env.topFrame.domain = cl.domain := by
  simp [fillerLeave, fillerEnter, Env.topFrame]

/-- `econtext.update(rcontext)`: a name that was defined globally gets the global value, every other name keeps the
caller's value -/
theorem C09_updateOwn_get (own rc : List (Str × Val)) (k : Str) :
    lookupAssoc (updateOwn own rc) k = match lookupAssoc rc k with | some v => some v | none => lookupAssoc own k := by
  unfold updateOwn
  induction rc with
  | nil => rfl
  | cons e rest ih =>
    obtain ⟨k', v'⟩ := e
    rw [List.foldr_cons, lookupAssoc_cons, lookupAssoc_cons, lookupAssoc_filter, ih]
    by_cases hk : k' = k
    · simp only [hk, if_true]
    · rw [if_neg hk, if_neg (Ne.symm hk), if_neg hk]

/-- **C09 (a macro's local variables never reach the caller, its global definitions do)**: after a macro call the caller's
own variables are those it had before the call, updated with `rcontext` — whatever the macro body did to its copy -/
theorem C09_locals_private (s s' : RState) (k : Str) (hk : lookupAssoc s'.env.rcontext k = none) :
    lookupAssoc (macroLeave s s').env.own k = lookupAssoc s.env.own k := by
  simp only [macroLeave]
  rw [C09_updateOwn_get]
  simp [hk]

theorem C09_globals_reach_caller (s s' : RState) (k : Str) (v : Val) (hk : lookupAssoc s'.env.rcontext k = some v) :
    lookupAssoc (macroLeave s s').env.own k = some v := by
  simp only [macroLeave]
  rw [C09_updateOwn_get]
  simp [hk]

/-- the callee starts from a *copy*: the caller's variables are all visible, `__token` is unset, and the caller's frame
(its cached values, saved lengths) is not the callee's -/
theorem C09_macro_enter (tid : Nat) (body : Node) (s : RState) :
    (macroEnter tid body s).env.own = s.env.own ∧ (macroEnter tid body s).x.token = none ∧
    (macroEnter tid body s).env.topFrame.cache = [] ∧ (macroEnter tid body s).env.topFrame.domain = s.env.topFrame.domain ∧
    (macroEnter tid body s).env.topFrame.tid = tid := by
  simp [macroEnter, Env.topFrame]

/-- the slot resolution pops the *rightmost* filler of the deque: in an extend chain (`appendleft`) the outermost
caller's filler wins, and the deque is left with the others -/
theorem C09_resolve_pops_rightmost (env : Env) (heap : List (Nat × List Nat)) (nm : Str) (did cid : Nat) (others : List Nat)
    (hv : env.get (lit "__slot_" ++ nm) = some (.slots did)) (hh : heapGet heap did = others ++ [cid]) :
    resolveSlots env heap [nm] = (heapSet heap did others, [(nm, some cid)]) := by
  simp [resolveSlots, hv, hh]

theorem C09_resolve_missing (env : Env) (heap : List (Nat × List Nat)) (nm : Str)
    (hv : env.get (lit "__slot_" ++ nm) = none) :
    resolveSlots env heap [nm] = (heap, [(nm, none)]) := by
  simp [resolveSlots, hv]

/-- **C09 (a macro of another template runs in its own template)**: inside the callee's activation `macros`
is that of the template the macro was written in — whatever template is being rendered — because name resolution reads
the template id of the innermost frame, which `macroEnter tid` sets -/
theorem C09_macro_names_resolve_in_its_template (cfg : ECfg) (al : List (Str × Val)) (tid : Nat) (body : Node) (s : RState) (est : ESt)
    (hfree : lookupAssoc al (lit "macros") = none)
    (hvar : lookupAssoc ((macroEnter tid body s).env.own ++ (macroEnter tid body s).env.root) (lit "macros") = none) :
    resolveName (mkECtx cfg al (macroEnter tid body s).env) (lit "macros") est = (.ok (.macros tid), est) := by
  have htid : (mkECtx cfg al (macroEnter tid body s).env).tid = tid := by
    simp [mkECtx, macroEnter]
  unfold resolveName
  have h1 : startsWith (lit "macros") (lit "__") = false := by decide
  have h2 : internals.contains (lit "macros").toString = false := by decide
  simp only [h1, h2, Bool.false_eq_true, Bool.or_self, if_false]
  have ha : lookupAssoc (mkECtx cfg al (macroEnter tid body s).env).aliases (lit "macros") = none := by simpa [mkECtx] using hfree
  have hv : lookupAssoc (mkECtx cfg al (macroEnter tid body s).env).vars (lit "macros") = none := by simpa [mkECtx] using hvar
  simp only [ha, hv]
  have h3 : ((lit "macros").toString == "nothing") = false := by decide
  have h4 : ((lit "macros").toString == "macros") = true := by decide
  simp [h3, h4, htid, pure]

end ChamVerif
