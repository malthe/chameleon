import ChamVerif.Tales
import ChamProofs.ReLemmas
import ChamProofs.ListLemmas
/-! # C06 — what the braces regex of the Interpolator matches

`Interpolator.braces_required_regex = \$({(?P<expression>.*)})` (DOTALL).  `BRACES_REQ` is regenerated from the live
class on every run; `tie_bracesReq` re-checks that it still has the shape the theorems below are about.  `search_braces`:
in `pre ++ "${" ++ b1 ++ "}" ++ b2` with no `$` in `pre` and no `}` in `b2`, the first match starts at the `$` and ends
after that *last* `}`, with group `expression` = `b1`. -/
namespace ChamVerif.C06Loop
open ChamVerif

def bracesReqShape : Re :=
  .seq (.chr 36) (.grp 1 (.seq (.chr 123) (.seq (.grp 2 (.rep true 0 none (.any true))) (.chr 125))))

/-- the regex of the live `Interpolator` (regenerated) is the one the theorems are about -/
theorem tie_bracesReq : Gen.BRACES_REQ = bracesReqShape ∧ Gen.BRACES_REQ_groups = [("expression", 2)] := ⟨rfl, rfl⟩

/-- try `k` at every position from the end of the input down to `pos` (`d` = what is left) -/
def tryDown {α} (k : K α) (caps : Caps) : Nat → Nat → Option α
  | 0, pos => k { pos := pos, caps := caps }
  | d + 1, pos => tryDown k caps d (pos + 1) <|> k { pos := pos, caps := caps }

/-- the greedy `.*` (DOTALL) tries its continuation at the end of the input first, then one character earlier, … -/
theorem star_any {α} (s : Array Nat) (body : M α)
    (hbody : ∀ st k', body st k' = if st.pos < s.size then k' { st with pos := st.pos + 1 } else none)
    (k : K α) (caps : Caps) :
    ∀ (d pos fuel cnt : Nat), pos + d = s.size → d + 1 ≤ fuel →
      repM true body 0 none fuel cnt { pos := pos, caps := caps } k = tryDown k caps d pos := by
  intro d
  induction d with
  | zero =>
    intro pos fuel cnt hp hf
    cases fuel with
    | zero => omega
    | succ f =>
      have hlt : ¬ pos < s.size := by omega
      simp [repM, repMore, canMore, hbody, hlt, tryDown]
  | succ d ih =>
    intro pos fuel cnt hp hf
    cases fuel with
    | zero => omega
    | succ f =>
      have hlt : pos < s.size := by omega
      have := ih (pos + 1) f (cnt + 1) (by omega) (by omega)
      simp only [repM, repMore, canMore, hbody, hlt, if_true, Nat.not_lt_zero, if_false,
        Nat.lt_add_one, decide_true, Bool.true_or, tryDown, this]

/-- the continuation the regex runs after `.*`: a `}` here ends the match -/
def closeK (s : Array Nat) (i : Nat) : K St := fun st =>
  if s[st.pos]? = some 125 then
    some { pos := st.pos + 1, caps := (1, i + 1, st.pos + 1) :: (2, i + 2, st.pos) :: st.caps }
  else none

theorem matchAt_shape (u : Uni) (s : Array Nat) (i : Nat) :
    matchAt u s bracesReqShape i =
      if s[i]? = some 36 then
        if s[i + 1]? = some 123 then
          if i + 2 ≤ s.size then tryDown (closeK s i) [] (s.size - (i + 2)) (i + 2) else none
        else none
      else none := by
  unfold matchAt bracesReqShape
  rw [den_seq, den_chr, one_beq]
  split
  · rw [den_grp, den_seq, den_chr, one_beq]
    split
    · rename_i h1
      have hsz : i + 2 ≤ s.size := by
        have : i + 1 < s.size := (Array.getElem?_eq_some_iff.mp h1).1
        omega
      rw [if_pos hsz, den_seq, den_grp, den_rep,
        star_any s (den u s (.any true)) (fun st k' => by simp [den]) _ [] (s.size - (i + 2)) (i + 2) _ 0 (by omega) (by simp)]
      congr 1
      funext st
      rw [den_chr, one_beq, closeK]
    · rfl
  · rfl

theorem tryDown_eq_none {α} (k : K α) (caps : Caps) : ∀ (d pos : Nat),
    (∀ p, pos ≤ p → p ≤ pos + d → k { pos := p, caps := caps } = none) → tryDown k caps d pos = none
  | 0, pos, h => h pos (Nat.le_refl _) (Nat.le_refl _)
  | d + 1, pos, h => by
    rw [tryDown, tryDown_eq_none k caps d (pos + 1) (fun p h1 h2 => h p (by omega) (by omega)),
      h pos (Nat.le_refl _) (by omega)]
    rfl

theorem tryDown_eq_some {α} (k : K α) (caps : Caps) {q : Nat} {v : α} (hq : k { pos := q, caps := caps } = some v) :
    ∀ (d pos : Nat), pos ≤ q → q ≤ pos + d → (∀ p, q < p → p ≤ pos + d → k { pos := p, caps := caps } = none) →
      tryDown k caps d pos = some v
  | 0, pos, h1, h2, _ => by rw [tryDown, show pos = q by omega, hq]
  | d + 1, pos, h1, h2, hn => by
    rw [tryDown]
    rcases Nat.eq_or_lt_of_le h1 with rfl | hlt
    · rw [tryDown_eq_none k caps d (pos + 1) (fun p h3 h4 => hn p (by omega) (by omega)), hq]; rfl
    · rw [tryDown_eq_some k caps hq d (pos + 1) hlt (by omega) (fun p h3 h4 => hn p h3 (by omega))]; rfl

/-- the last `}` at `q`: that is where the match ends -/
theorem tryDown_last (s : Array Nat) (i q : Nat) (hq : s[q]? = some 125)
    (hafter : ∀ p, q < p → p < s.size → s[p]? ≠ some 125) :
    ∀ (d pos : Nat), pos + d = s.size → pos ≤ q →
      tryDown (closeK s i) [] d pos = some { pos := q + 1, caps := [(1, i + 1, q + 1), (2, i + 2, q)] } := by
  intro d pos hp hle
  have hqs : q < s.size := (Array.getElem?_eq_some_iff.mp hq).1
  refine tryDown_eq_some _ _ (by simp [closeK, hq]) d pos hle (by omega) (fun p hp1 hp2 => ?_)
  rcases Nat.lt_or_ge p s.size with hlt | hge
  · simp [closeK, hafter p hp1 hlt]
  · simp [closeK, Array.getElem?_eq_none hge]

/-- no `${` begins inside `pre`, nor with its last character and the `$` that follows it -/
def NoStart (pre : Str) : Prop := ∀ i, pre[i]? = some 36 → (pre ++ [36])[i + 1]? ≠ some 123

theorem noStart_of_no_dollar (pre : Str) (h : 36 ∉ pre) : NoStart pre := by
  intro i hi
  exact absurd (List.mem_of_getElem? hi) h

theorem noStart_nil : NoStart [] := noStart_of_no_dollar [] (by simp)

/-- text without `$`, then a run of `$`: still no `${` begins there -/
theorem noStart_run (pre0 : Str) (k : Nat) (h : 36 ∉ pre0) : NoStart (pre0 ++ List.replicate k 36) := by
  intro i hi hn
  -- the `$` at `i` lies in the run, so what follows it lies in the run or is the `$` appended: not a `{`
  have hi' : pre0.length ≤ i := by
    refine Nat.le_of_not_lt fun hlt => ?_
    rw [List.getElem?_append_left hlt] at hi
    exact h (List.mem_of_getElem? hi)
  rw [List.append_assoc, List.getElem?_append_right (by omega)] at hn
  simpa using List.mem_of_getElem? hn

/-- **the braces regex on a text**: the first match is at the first `$` that is followed by `{` … `}`; it ends after the
last `}` of the text -/
theorem search_braces (u : Uni) (pre b1 b2 : Str) (hpre : NoStart pre) (hb2 : 125 ∉ b2) :
    search u (pre ++ 36 :: 123 :: (b1 ++ 125 :: b2)).toArray bracesReqShape =
      some (pre.length, { pos := pre.length + 2 + b1.length + 1,
                          caps := [(1, pre.length + 1, pre.length + 2 + b1.length + 1),
                                   (2, pre.length + 2, pre.length + 2 + b1.length)] }) := by
  generalize hT : pre ++ 36 :: 123 :: (b1 ++ 125 :: b2) = T
  have hlen : T.toArray.size = pre.length + 2 + b1.length + 1 + b2.length := by
    rw [← hT]; simp only [List.size_toArray, List.length_append, List.length_cons]; omega
  -- the text from the `}` on, and the text up to the `$`
  have hidx : ∀ k, T.toArray[pre.length + 2 + b1.length + k]? = (125 :: b2)[k]? := by
    intro k
    rw [List.getElem?_toArray, ← hT, Nat.add_assoc, Nat.add_assoc, List.getElem?_append_add, Nat.add_comm 2,
      List.getElem?_cons_succ, List.getElem?_cons_succ, List.getElem?_append_add]
  have hpfx : ∀ i, i < pre.length + 1 → T.toArray[i]? = (pre ++ [36])[i]? := by
    intro i hi
    rw [List.getElem?_toArray, ← hT, List.append_cons pre, List.getElem?_append_left (by simpa using hi)]
  refine search_eq_some u _ _ (Nat.zero_le _) (by omega) ?_ (fun i _ hi => ?_)
  · -- the match at the `$`: up to the last `}`
    rw [matchAt_shape, if_pos (by rw [← hT]; simp), if_pos (by rw [← hT]; simp), if_pos (by omega)]
    refine tryDown_last T.toArray pre.length (pre.length + 2 + b1.length) (hidx 0) (fun p hp1 _ h => ?_)
      _ _ (by omega) (by omega)
    obtain ⟨k, rfl⟩ : ∃ k, p = pre.length + 2 + b1.length + (k + 1) := ⟨p - (pre.length + 2 + b1.length + 1), by omega⟩
    rw [hidx] at h
    exact hb2 (List.mem_of_getElem? h)
  · -- no match before it: a `$` inside `pre` is not followed by `{`
    rw [matchAt_shape]
    split
    · rename_i h36
      rw [hpfx i (by omega), List.getElem?_append_left hi] at h36
      rw [if_neg (by rw [hpfx (i + 1) (by omega)]; exact hpre i h36)]
    · rfl

/-! ## entities: an expression without `&` is not changed by the decoding step -/

def entity2Shape : Re :=
  .seq (.chr 38) (.seq (.grp 1 (.rep true 0 (some 1) (.chr 35))) (.seq (.grp 2 (.rep true 0 (some 1) (.chr 120)))
    (.seq (.grp 3 (.alt (.rep true 1 (some 5) (.cls false [(.cat false .digit false)]))
      (.rep true 1 (some 8) (.cls false [(.cat false .word false)])))) (.chr 59))))

/-- the entity regex of the live module (regenerated) begins with `&` -/
theorem tie_entity2 : Gen.ENTITY2_RE = entity2Shape := rfl

/-- a regex that begins with a fixed character finds nothing in a text without that character -/
theorem searchFrom_first_char_none (u : Uni) (t : Str) (ch : Nat) (R : Re) (ht : ch ∉ t) :
    ∀ (fuel i : Nat), searchFrom u t.toArray (.seq (.chr ch) R) fuel i = none := by
  intro fuel i
  refine searchFrom_eq_none u _ _ fuel i (fun j _ _ => ?_)
  unfold matchAt
  rw [den_seq, den_chr, one_beq, if_neg]
  rw [List.getElem?_toArray]
  exact fun h => ht (List.mem_of_getElem? h)

theorem search_no_dollar (u : Uni) (t : Str) (ht : 36 ∉ t) : search u t.toArray bracesReqShape = none :=
  searchFrom_first_char_none u t 36 _ ht _ _

theorem decodeEntities_no_amp (rx : Rx) (hrx : rx.entity2Re = entity2Shape) (s : Str) (hs : 38 ∉ s) :
    decodeEntities rx s = some s := by
  unfold decodeEntities
  simp only [hrx]
  unfold entity2Shape
  rw [finditer, finditerAux, search, searchFrom_first_char_none Gen.uni s 38 _ hs]
  simp [decodeEntities.go]

end ChamVerif.C06Loop
