import ChamVerif.Spec
import ChamProofs.Props.C01Spec  -- not used below: the C04 check audits `C01_element_semantics_full` through this module
/-! # C04 — expressions in parts that are not rendered are never evaluated

Stated on the statement semantics (`Spec`), which the interpreter refines (`C01_element_semantics_full`): the
continuation `k` stands for *everything* the element would render below the statement — its tags, attributes, content,
children, with all their expressions.  When the guard is false, `k` is not run at all: the final state (the evaluation
log included) is the state right after the guard's own expression was evaluated. -/
namespace ChamVerif
open ChamVerif.Spec

/-- `tal:condition` false: nothing below it is evaluated -/
theorem C04_false_condition_skips (cfg : ECfg) (al : List (Str × Val)) (cl : Tok) (k : RM Unit) (s s1 : RState) (v : Val)
    (hv : liftX (fun env => evalCond cfg al env 16 (.e (.value cl))) s = .ok v s1) (hb : Val.truthy cfg.tab v = .ok false) :
    conditionOf cfg al (some cl) k s = .ok () s1 := by
  simp only [conditionOf, bind, hv, vTruthy, mLiftR, hb, pure]
  rfl

/-- `tal:condition` true: the element renders, from the state after the condition's evaluation -/
theorem C04_true_condition_renders (cfg : ECfg) (al : List (Str × Val)) (cl : Tok) (k : RM Unit) (s s1 : RState) (v : Val)
    (hv : liftX (fun env => evalCond cfg al env 16 (.e (.value cl))) s = .ok v s1) (hb : Val.truthy cfg.tab v = .ok true) :
    conditionOf cfg al (some cl) k s = k s1 := by
  simp only [conditionOf, bind, hv, vTruthy, mLiftR, hb, pure]
  rfl

/-- a `tal:case` that does not match (or whose switch is already closed): nothing below it is evaluated, and the switch stays
as it was -/
theorem C04_unmatched_case_skips (cfg : ECfg) (al : List (Str × Val)) (sw : Nat) (cl : Tok) (k : List (Str × Val) → RM Unit)
    (s s1 : RState) (v : Val)
    (hv : liftX (fun env => evalCond cfg ((lit "default", Val.dflt) :: al) env 16 (caseCond sw cl)) s = .ok v s1)
    (hb : Val.truthy cfg.tab v = .ok false) :
    caseOf cfg al (some (sw, cl)) k s = .ok () s1 := by
  simp only [caseOf, bind, hv, vTruthy, mLiftR, hb, pure]
  rfl

/-- a matching `tal:case` closes the switch *before* the element renders (so a failure of the element, handled by its own
`tal:on-error`, does not let a later case render) -/
theorem C04_matching_case_closes_first (cfg : ECfg) (al : List (Str × Val)) (sw : Nat) (cl : Tok) (k : List (Str × Val) → RM Unit)
    (s s1 : RState) (v : Val)
    (hv : liftX (fun env => evalCond cfg ((lit "default", Val.dflt) :: al) env 16 (caseCond sw cl)) s = .ok v s1)
    (hb : Val.truthy cfg.tab v = .ok true) :
    caseOf cfg al (some (sw, cl)) k s =
      (setCache sw (Val.excClass "<CANCEL>") >>= fun _ => k ((lit "default", Val.dflt) :: al)) s1 := by
  simp only [caseOf, bind, hv, vTruthy, mLiftR, hb, pure]
  rfl

/-- `tal:replace` / `tal:content` with a value other than `default`: the original (the element, resp. its children) is
not evaluated at all; the expression itself was evaluated once and its cached value is what is tested and inserted -/
theorem C04_replaced_original_not_evaluated (cfg : ECfg) (al : List (Str × Val)) (st : Nat × Tok × Bool × Bool)
    (orig : List (Str × Val) → RM Unit) (s s1 s2 s3 : RState) (v isd : Val)
    (hv : enVal cfg ((lit "default", Val.dflt) :: al) (.value st.2.1) s = .ok v s1)
    (hc : setCache st.1 v s1 = .ok () s2)
    (hd : liftX (fun env => evalCond cfg ((lit "default", Val.dflt) :: al) env 16 (.e (.binop (.ref st.1) .is_ .marker))) s2 = .ok isd s3)
    (hb : Val.truthy cfg.tab isd = .ok false) :
    insertOr cfg al st orig s = emitValue cfg ((lit "default", Val.dflt) :: al) (.ref st.1) (!st.2.2.1) st.2.2.2 s3 := by
  simp only [insertOr, bind, hv, hc, hd, vTruthy, mLiftR, hb]
  rfl

end ChamVerif
