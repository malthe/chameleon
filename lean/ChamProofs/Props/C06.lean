import ChamVerif.Tales
/-! # C06 — `${…}` interpolation is delimited correctly and `$$` escapes it -/
namespace ChamVerif

theorem undouble_cons_ne {c : Nat} (hc : c ≠ 36) (r : Str) : undoubleDollar (c :: r) = c :: undoubleDollar r := by
  rw [undoubleDollar.eq_def]; split <;> simp_all

/-- `str.replace('$$', '$')` leaves text without `$` untouched -/
theorem undouble_no_dollar (s : Str) (h : 36 ∉ s) : undoubleDollar s = s := by
  induction s with
  | nil => rfl
  | cons c s ih =>
    rw [List.mem_cons, not_or] at h
    rw [undouble_cons_ne (Ne.symm h.1), ih h.2]

/-- `$$` yields a single `$` -/
theorem undouble_pair (r : Str) : undoubleDollar (36 :: 36 :: r) = 36 :: undoubleDollar r := by
  rw [undoubleDollar]

theorem isTriple_append (c : Nat) (r b : Str) (hb : ∀ h, b.head? = some h → h ≠ c) (hr : r ≠ [])
    (h : isTriple c r = false) : isTriple c (r ++ b) = false := by
  unfold isTriple at h ⊢
  match r, hr with
  | [d], _ => cases b <;> simp_all
  | d :: e :: r2, _ => simpa using h

/-- scanning a text that is complete (ends outside string literals) and then more text is scanning the
rest from the stack reached — provided the rest does not begin with a quote (which could turn a
trailing empty string literal into a triple quote) -/
theorem scan_append : ∀ (a : Str) (m : ScanMode) (st st' : List Nat) (b : Str),
    (∀ h, b.head? = some h → h ≠ 39 ∧ h ≠ 34) →
    scan m st a = .ok st' → scan m st (a ++ b) = scan .out st' b := by
  intro a m st st' b hb
  -- `scan` reads left to right: by induction along its own recursion every step is the same with `b` appended
  induction m, st, a using scan.induct <;> intro h <;>
    simp only [scan, List.cons_append, List.nil_append, *, if_true, if_false, reduceCtorEq] at h ⊢
  case case1 => cases h; rfl
  case case10 c r hc htri ih =>
    -- … except at an opening quote, where the triple-quote test looks ahead, possibly into `b`; `r` is not empty, as the
    -- literal is closed in it
    have hr : r ≠ [] := by rintro rfl; simp [scan] at h
    have hc' : c = 39 ∨ c = 34 := by simpa using hc
    rw [isTriple_append c r b (fun x hx => by rcases hc' with rfl | rfl <;> simp [hb x hx]) hr (by simpa using htri)]
    exact ih h
  all_goals (rename_i ih; exact ih h)

/-- **C06 (own closing brace)**: an expression whose brackets are balanced (and whose string literals
are closed) followed by `}` and anything else is certainly not valid Python — so of all the
candidates `${ e } …}` the scanner tries, none longer than the one ending at the expression's own
closing brace can be accepted. -/
theorem C06_own_brace (e x : Str) (h : scan .out [] e = .ok []) :
    definitelyInvalid (e ++ 125 :: x) = true := by
  unfold definitelyInvalid
  have hb : ∀ h, (125 :: x).head? = some h → h ≠ 39 ∧ h ≠ 34 := by
    intro h hh; simp at hh; subst hh; decide
  rw [scan_append e .out [] [] (125 :: x) hb h]
  simp [scan, popClose]

/-- non-vacuity: a brace-rich expression with a `}` inside a string literal is balanced -/
example : scan .out [] (Str.ofString "{'a': '}'}['a'] + f(x[1])") = .ok [] := by decide +kernel

end ChamVerif
