import ChamProofs.Props.C16
/-! # C16 — following the file when time stamps do not move forward

`C16_follows` assumes that every change moves the modification time forward.  A roll-back that preserves time stamps, a
restored backup or a clock correction gives the file an *earlier* stamp.  `C16_follows_fresh`: it is enough that every
change gives the file a stamp it never had before in this history (earlier or later): the template still observes
exactly what the file holds.  (What `auto_reload` cannot see is a change that *re-uses* a stamp: `okOpH` excludes it, as
`okOp` excludes the bare `write`.) -/
namespace ChamVerif.Sys

/-- invariant relative to the stamps the file has had so far (`hist`) -/
def InvH (info : Nat → VersionInfo) (hist : List Nat) (w : World) : Prop :=
  w.file.mtime ∈ hist ∧ (∀ lr, w.tpl.lastRead = some lr → lr ∈ hist) ∧
  (w.tpl.cooked = true → w.tpl.lastRead = some w.file.mtime → Fresh info w.tpl w.file.version)

/-- admissible: every change gives the file a time stamp it has not had before -/
def okOpH (hist : List Nat) : Op → Prop
  | .write _ => False
  | .utime t => t ∉ hist
  | .modify _ t => t ∉ hist
  | _ => True

def histAfter (hist : List Nat) : Op → List Nat
  | .utime t => t :: hist
  | .modify _ t => t :: hist
  | _ => hist

def ValidH (q : RQuirks) (info : Nat → VersionInfo) : List Nat → World → List Op → Prop
  | _, _, [] => True
  | hist, w, op :: rest => okOpH hist op ∧ ValidH q info (histAfter hist op) (step q info w op).1 rest

theorem inv_stepH (info : Nat → VersionInfo) (hist : List Nat) (w : World) (op : Op) (ha : w.tpl.autoReload = true)
    (hi : InvH info hist w) (hok : okOpH hist op) :
    InvH info (histAfter hist op) (step fixed info w op).1 ∧ (step fixed info w op).1.tpl.autoReload = true := by
  obtain ⟨hm, hlr, hs⟩ := hi
  cases op with
  | write v => exact hok.elim
  | utime t | modify v t =>
    -- the new stamp is one the template cannot have seen
    exact ⟨⟨List.mem_cons_self, fun lr h => List.mem_cons_of_mem _ (hlr lr h), fun _ hl => absurd (hlr t hl) hok⟩, ha⟩
  | render | names | use m =>
    obtain ⟨hf, _, hl, ha'⟩ := cookCheck_current info w ha hs
    exact ⟨⟨hm, fun lr h => Option.some.inj (hl.symm.trans h) ▸ hm, fun _ _ => hf⟩, ha'⟩

/-- **C16 (file templates follow their files, whichever way the time stamps move)**: for every history in which each change
gives the file a time stamp it has not had before — later *or earlier* — an auto-reloading template observes exactly what
the file holds at that moment -/
theorem C16_follows_fresh (info : Nat → VersionInfo) : ∀ (ops : List Op) (hist : List Nat) (w : World),
    w.tpl.autoReload = true → InvH info hist w → ValidH fixed info hist w ops →
    (run fixed info w ops).2 = specRun info w.file ops := by
  intro ops
  induction ops with
  | nil => intro hist w _ _ _; rfl
  | cons op rest ih =>
    intro hist w ha hi hv
    obtain ⟨hok, hrest⟩ := hv
    obtain ⟨hi', ha'⟩ := inv_stepH info hist w op ha hi hok
    obtain ⟨ho, hf⟩ := step_refines info w op ha hi.2.2
    simp only [run, specRun]
    rw [ho, ih _ _ ha' hi' hrest, hf]

theorem invH_init (info : Nat → VersionInfo) (f : File) : InvH info [f.mtime] { file := f, tpl := { autoReload := true } } :=
  ⟨by simp, fun lr h => by simp at h, fun h => by simp at h⟩

/-- non-vacuity: a roll-back (stamp 10 → 12 → 5) is an admissible history -/
example (info : Nat → VersionInfo) :
    ValidH fixed info [10] { file := { version := 0, mtime := 10 }, tpl := { autoReload := true } }
      [.render, .modify 1 12, .render, .modify 2 5, .render] := by
  simp [ValidH, okOpH, histAfter]

end ChamVerif.Sys
