import ChamVerif.Escape
import ChamVerif.Gen.Tables
/-! # C02 — inserted values are escaped and cannot change document structure

Theorems about the emitted `__quote` as modelled in `ChamVerif/Escape.lean`; the
per-site `(quote, entity)` pairs are tied to the code by `Gen.Tables` (probe observations,
see `C02_sites` at the end of this file) and by the end-to-end correspondence. -/
namespace ChamVerif

theorem replace1_flatMap (c : Nat) (r : Str) (f : Nat → Str) (s : Str) :
    replace1 c r (s.flatMap f) = s.flatMap (fun x => replace1 c r (f x)) := by
  simp [replace1, List.flatMap_assoc]

/-- pointwise: the chain of replacements applied to one character -/
theorem chain_char (st : Site) (c : Nat) :
    (match st.q with
     | none => replace1 62 gtE (replace1 60 ltE (rep1 38 ampE c))
     | some q => replace1 q st.qe (replace1 62 gtE (replace1 60 ltE (rep1 38 ampE c))))
    = escChar st.q st.qe c := by
  by_cases h38 : c = 38
  · subst h38; cases st <;> decide
  · by_cases h60 : c = 60
    · subst h60; cases st <;> decide
    · by_cases h62 : c = 62
      · subst h62; cases st <;> decide
      · cases st <;>
          simp [Site.q, Site.qe, escChar, rep1, replace1, h38, h60, h62, eq_comm]

/-- **the chain of `str.replace` calls is a per-character map** (no replacement re-reads
the output of an earlier one), for every site and every string -/
theorem escapeSeq_eq_map (st : Site) (s : Str) : escapeSeq st.q st.qe s = escapeMap st.q st.qe s := by
  unfold escapeSeq escapeMap
  have h1 : replace1 38 ampE s = s.flatMap (rep1 38 ampE) := rfl
  -- both sides are `flatMap`s over `s`; character by character they agree by `chain_char`
  have := chain_char st
  cases st <;> simp only [Site.q, Site.qe, h1, replace1_flatMap] at this ⊢ <;> congr 1 <;> funext c <;>
    exact this c

theorem needsEscape_eq_false (s : Str) :
    needsEscape s = false ↔ ∀ c ∈ s, c ≠ 38 ∧ c ≠ 60 ∧ c ≠ 62 ∧ c ≠ 34 ∧ c ≠ 39 := by
  simp [needsEscape, and_assoc]

theorem Site.quote_cases (st : Site) (s : Str) :
    st.quote s = escapeMap st.q st.qe s ∨ (needsEscape s = false ∧ st.quote s = s) := by
  unfold Site.quote quoteStr
  cases h : needsEscape s
  · exact Or.inr ⟨rfl, rfl⟩
  · exact Or.inl (escapeSeq_eq_map st s)

/-- the characters `__quote` replaces at some site, each with its entity -/
def entities : List (Nat × Str) := [(38, ampE), (60, ltE), (62, gtE), (0, nulE), (34, quotE), (39, aposE)]

theorem escChar_self (st : Site) (c : Nat) (h38 : c ≠ 38) (h60 : c ≠ 60) (h62 : c ≠ 62) (hq : st.q ≠ some c) :
    escChar st.q st.qe c = [c] := by
  simp [escChar, h38, h60, h62, hq]

theorem escChar_cases (st : Site) (c : Nat) :
    (c, escChar st.q st.qe c) ∈ entities ∨
    (escChar st.q st.qe c = [c] ∧ c ≠ 38 ∧ c ≠ 60 ∧ c ≠ 62 ∧ st.q ≠ some c) := by
  by_cases h38 : c = 38; · simp [escChar, h38, entities]
  by_cases h60 : c = 60; · simp [escChar, h60, entities]
  by_cases h62 : c = 62; · simp [escChar, h62, entities]
  by_cases hq : st.q = some c
  · cases st <;> simp [Site.q] at hq <;> subst hq <;> simp [escChar, Site.q, Site.qe, entities]
  · exact Or.inr ⟨escChar_self st c h38 h60 h62 hq, h38, h60, h62, hq⟩

theorem entities_unescape : ∀ e ∈ entities, ∀ r, unescape (e.2 ++ r) = e.1 :: unescape r := by
  simp [entities, ampE, ltE, gtE, nulE, quotE, aposE, unescape]

theorem entities_ampOK : ∀ e ∈ entities, ∀ r, ampOK (e.2 ++ r) = ampOK r := by
  simp [entities, ampE, ltE, gtE, nulE, quotE, aposE, ampOK]

theorem entities_no_raw : ∀ e ∈ entities, ∀ x ∈ e.2, x ≠ 60 ∧ x ≠ 62 ∧ x ≠ 0 ∧ x ≠ 34 ∧ x ≠ 39 := by decide

theorem unescape_cons_of_ne {c : Nat} (r : Str) (h : c ≠ 38) : unescape (c :: r) = c :: unescape r := by
  simp [unescape, h]

theorem ampOK_cons_of_ne {c : Nat} (r : Str) (h : c ≠ 38) : ampOK (c :: r) = ampOK r := by
  simp [ampOK]

theorem unescape_plain (s : Str) (h : ∀ c ∈ s, c ≠ 38) : unescape s = s := by
  induction s with
  | nil => rfl
  | cons c s ih => rw [unescape_cons_of_ne s (h c (by simp)), ih fun x hx => h x (by simp [hx])]

theorem ampOK_plain (s : Str) (h : ∀ c ∈ s, c ≠ 38) : ampOK s = true := by
  induction s with
  | nil => rfl
  | cons c s ih => rw [ampOK_cons_of_ne s (h c (by simp)), ih fun x hx => h x (by simp [hx])]

theorem unescape_escChar (st : Site) (c : Nat) (r : Str) :
    unescape (escChar st.q st.qe c ++ r) = c :: unescape r := by
  rcases escChar_cases st c with h | ⟨e, h, _⟩
  · exact entities_unescape _ h r
  · rw [e]; exact unescape_cons_of_ne r h

theorem ampOK_esc_append (st : Site) (c : Nat) (r : Str) (hr : ampOK r = true) :
    ampOK (escChar st.q st.qe c ++ r) = true := by
  rcases escChar_cases st c with h | ⟨e, h, _⟩
  · rw [entities_ampOK _ h r, hr]
  · rw [e, List.singleton_append, ampOK_cons_of_ne r h, hr]

theorem escChar_no_raw (st : Site) (c x : Nat) (hx : x ∈ escChar st.q st.qe c) :
    x ≠ 60 ∧ x ≠ 62 ∧ st.q ≠ some x := by
  rcases escChar_cases st c with h | ⟨e, _, h60, h62, hq⟩
  · obtain ⟨h60, h62, h0, h34, h39⟩ := entities_no_raw _ h x hx
    refine ⟨h60, h62, ?_⟩
    cases st <;> simp [Site.q] <;> omega
  · rw [e, List.mem_singleton] at hx; rw [hx]; exact ⟨h60, h62, hq⟩

theorem escapeMap_plain (st : Site) (s : Str) (h : ∀ c ∈ s, c ≠ 38 ∧ c ≠ 60 ∧ c ≠ 62 ∧ st.q ≠ some c) :
    escapeMap st.q st.qe s = s := by
  induction s with
  | nil => rfl
  | cons c s ih =>
    obtain ⟨h38, h60, h62, hq⟩ := h c (by simp)
    rw [escapeMap, List.flatMap_cons, escChar_self st c h38 h60 h62 hq, ← escapeMap, ih fun x hx => h x (by simp [hx])]
    rfl

theorem needsEscape_false_map (st : Site) (s : Str) (h : needsEscape s = false) (hq : st ≠ .text) :
    escapeMap st.q st.qe s = s := by
  refine escapeMap_plain st s fun c hc => ?_
  obtain ⟨h38, h60, h62, h34, h39⟩ := (needsEscape_eq_false s).mp h c hc
  refine ⟨h38, h60, h62, ?_⟩
  -- away from the text site the quote is `"`, `'` or none
  cases st <;> simp [Site.q] at hq ⊢ <;> omega

/-- **C02 (no raw markup)**: at every site, for every string: no `<`, no `>`, and in a quoted
attribute no occurrence of the attribute's own quote character. -/
theorem C02_no_raw (st : Site) (s : Str) :
    60 ∉ st.quote s ∧ 62 ∉ st.quote s ∧ (st = .dq → 34 ∉ st.quote s) ∧ (st = .sq → 39 ∉ st.quote s) := by
  rcases st.quote_cases s with e | ⟨hf, e⟩ <;> rw [e]
  · have key : ∀ x ∈ escapeMap st.q st.qe s, x ≠ 60 ∧ x ≠ 62 ∧ st.q ≠ some x := by
      intro x hx
      obtain ⟨c, _, hc⟩ := List.mem_flatMap.mp hx
      exact escChar_no_raw st c x hc
    exact ⟨fun h => (key 60 h).1 rfl, fun h => (key 62 h).2.1 rfl, fun hst h => (key 34 h).2.2 (hst ▸ rfl),
      fun hst h => (key 39 h).2.2 (hst ▸ rfl)⟩
  · have hf := (needsEscape_eq_false s).mp hf
    exact ⟨fun m => (hf _ m).2.1 rfl, fun m => (hf _ m).2.2.1 rfl, fun _ m => (hf _ m).2.2.2.1 rfl,
      fun _ m => (hf _ m).2.2.2.2 rfl⟩

theorem unescape_escapeMap (st : Site) (s : Str) : unescape (escapeMap st.q st.qe s) = s := by
  induction s with
  | nil => rfl
  | cons c s ih => rw [escapeMap, List.flatMap_cons, unescape_escChar, ← escapeMap, ih]

/-- **C02 (round trip)**: un-escaping the inserted region gives back the string. -/
theorem C02_roundtrip (st : Site) (s : Str) : unescape (st.quote s) = s := by
  rcases st.quote_cases s with e | ⟨hf, e⟩ <;> rw [e]
  · exact unescape_escapeMap st s
  · exact unescape_plain s fun c hc => ((needsEscape_eq_false s).mp hf c hc).1

theorem ampOK_escapeMap (st : Site) (s : Str) : ampOK (escapeMap st.q st.qe s) = true := by
  induction s with
  | nil => rfl
  | cons c s ih =>
    simp only [escapeMap, List.flatMap_cons] at ih ⊢
    exact ampOK_esc_append st c _ ih

/-- **C02 (entities)**: every `&` in the inserted text begins one of the entities `__quote` produces -/
theorem C02_amp_entities (st : Site) (s : Str) : ampOK (st.quote s) = true := by
  rcases st.quote_cases s with e | ⟨hf, e⟩ <;> rw [e]
  · exact ampOK_escapeMap st s
  · exact ampOK_plain s fun c hc => ((needsEscape_eq_false s).mp hf c hc).1

/-- **C02 (values)**: whatever the value class, what `__quote` returns is nothing, the static
default, the unescaped opt-outs (`num`: exact int/float, `html`: `__html__`), or the escaped
string form. -/
theorem C02_value (st : Site) (d : Option Str) (v : QIn) :
    quoteVal st.q st.qe d v = none ∨ quoteVal st.q st.qe d v = d
    ∨ (∃ r, v = .num r ∧ quoteVal st.q st.qe d v = some r)
    ∨ (∃ m, v = .html m ∧ quoteVal st.q st.qe d v = some m)
    ∨ (∃ s, quoteVal st.q st.qe d v = some (st.quote s)) := by
  cases v with
  | none => left; rfl
  | marker => right; left; rfl
  | bytes b => right; right; right; right; exact ⟨b, rfl⟩
  | str s => right; right; right; right; exact ⟨s, rfl⟩
  | num r => right; right; left; exact ⟨r, rfl, rfl⟩
  | html m => right; right; right; left; exact ⟨m, rfl, rfl⟩
  | other sf tr =>
    match tr with
    | none => right; right; right; right; exact ⟨sf, rfl⟩
    | some none => left; rfl
    | some (some t) => right; right; right; right; exact ⟨t, rfl⟩

example : Site.dq.quote (Str.ofString "a<\"&'>") = Str.ofString "a&lt;&quot;&amp;'&gt;" := by decide +kernel

end ChamVerif

/-! ## The tie: every insertion site of the *current* code escapes as its class requires

`Gen.escSites` is observed on every run by rendering each probe character through one probe
template per site with the real engine (`harness/extract_tables.py`). -/
namespace ChamVerif

/-- which escaping class the property requires at each site; `some none` = explicit opt-out -/
def siteKind : String → Option (Option Site)
  | "text_interp" | "content" | "content_text_kw" | "replace" | "comment_interp"
  | "string_in_content" | "i18n_name_block" => some (some .text)
  | "dq_attr_interp" | "tal_attr_new" | "tal_attr_dq" | "dict_attr" => some (some .dq)
  | "sq_attr_interp" | "tal_attr_sq" => some (some .sq)
  | "cdata_interp" | "structure_content" | "structure_interp" | "text_mode" => some none
  | _ => none

def requiredSites : List String :=
  ["text_interp", "content", "content_text_kw", "replace", "comment_interp", "string_in_content",
   "i18n_name_block", "dq_attr_interp", "tal_attr_new", "tal_attr_dq", "dict_attr", "sq_attr_interp",
   "tal_attr_sq", "cdata_interp", "structure_content", "structure_interp", "text_mode"]

def expectedImage (k : Option Site) (c : Nat) : Str :=
  match k with
  | some st => st.quote [c]
  | none => [c]

def siteOK (row : String × List (Nat × List Nat)) : Bool :=
  match siteKind row.1 with
  | none => false
  | some k => Gen.escProbeAlphabet.all (fun c =>
      ((row.2.find? (·.1 == c)).map (·.2)).getD [c] == expectedImage k c)

/-- **C02 (sites)**: at every probed insertion site of the live code, every probe character is
rendered exactly as the model's `Site.quote` (or untouched, for the opt-outs) says. -/
theorem C02_sites : Gen.escSites.all siteOK = true := by decide +kernel

theorem C02_sites_complete : requiredSites.all (fun n => Gen.escSites.any (·.1 == n)) = true := by
  decide +kernel

end ChamVerif
