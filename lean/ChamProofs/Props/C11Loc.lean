import ChamVerif.Lex
import ChamProofs.ListLemmas
/-! # C11 — line and column identify the offset exactly

`Token.location` turns an offset into (line, column).  `location_exact`: for every source and every offset (`C11_location_exact`
states it for the offsets inside the source), the offset is recovered from the pair — it is the start of that line (the position after the `line - 1`-th newline,
`lineStart`) plus the column — and the column stays within the line (no newline between the line start and the
offset).  Only `\n` counts as a line end. -/
namespace ChamVerif.C11Loc
open ChamVerif

/-- the offset at which line `n + 1` starts: the position after the `n`-th newline -/
def lineStart : Str → Nat → Nat
  | _, 0 => 0
  | [], _ + 1 => 0
  | c :: r, n + 1 => 1 + (if c = 10 then lineStart r n else lineStart r (n + 1))

/-- length of the text after the last newline -/
def lastLineLen (body : Str) : Nat := (body.reverse.takeWhile (· != 10)).length

theorem lastLineLen_cons (c : Nat) (r : Str) :
    lastLineLen (c :: r) = if 10 ∈ r then lastLineLen r else (if c = 10 then r.length else r.length + 1) := by
  have hall : (r.reverse.takeWhile (· != 10)).length = r.reverse.length ↔ 10 ∉ r := by
    rw [List.length_takeWhile_eq_iff]
    simp only [List.mem_reverse, bne_iff_ne]
    exact ⟨fun h hm => h 10 hm rfl, fun h x hx e => h (e ▸ hx)⟩
  unfold lastLineLen
  rw [List.reverse_cons, List.takeWhile_append]
  by_cases hm : 10 ∈ r
  · rw [if_neg (fun h => hall.mp h hm), if_pos hm]
  · rw [if_pos (hall.mpr hm), if_neg hm]
    by_cases hc : c = 10 <;> simp [hc]

theorem lastLineLen_le (body : Str) : lastLineLen body ≤ body.length :=
  List.length_reverse ▸ (List.takeWhile_prefix _).length_le

theorem lastLine_no_nl (body : Str) : 10 ∉ body.drop (body.length - lastLineLen body) := by
  intro hm
  rw [← List.mem_reverse, List.reverse_drop, Nat.sub_sub_self (lastLineLen_le body), lastLineLen,
    ← List.prefix_iff_eq_take.mp (List.takeWhile_prefix _)] at hm
  simpa using List.all_eq_true.mp List.all_takeWhile 10 hm

/-- the start of the last line of `body`, as `lineStart` finds it in any text that begins with `body` -/
theorem lineStart_body : ∀ (body rest : Str), lineStart (body ++ rest) (body.count 10) + lastLineLen body = body.length := by
  intro body
  induction body with
  | nil => intro rest; simp [lineStart, lastLineLen]
  | cons c r ih =>
    intro rest
    have := ih rest
    rw [lastLineLen_cons, List.cons_append, List.count_cons, List.length_cons]
    by_cases hm : 10 ∈ r
    · obtain ⟨n, hn⟩ : ∃ n, r.count 10 = n + 1 := ⟨r.count 10 - 1, by have := List.count_pos_iff.mpr hm; omega⟩
      rw [hn] at this ⊢
      by_cases hc : c = 10 <;> simp [hc, hm, lineStart] <;> omega
    · rw [List.count_eq_zero.mpr hm] at this ⊢
      by_cases hc : c = 10 <;> simp [hc, hm, lineStart] at this ⊢ <;> omega

theorem location_exact (src : Str) (t : Tok) :
    lineStart src ((Tok.location src t).1 - 1) + (Tok.location src t).2 = t.pos ∧
    10 ∉ (src.take t.pos).drop (lineStart src ((Tok.location src t).1 - 1)) := by
  have hlen : (src.take t.pos).length = min t.pos src.length := List.length_take
  have hls := lineStart_body (src.take t.pos) (src.drop t.pos)
  rw [List.take_append_drop] at hls
  have hle := lastLineLen_le (src.take t.pos)
  have hloc1 : (Tok.location src t).1 - 1 = (src.take t.pos).count 10 := rfl
  have hloc2 : (Tok.location src t).2 = t.pos - ((src.take t.pos).length - lastLineLen (src.take t.pos)) := rfl
  rw [hloc1, hloc2]
  refine ⟨by omega, ?_⟩
  rw [show lineStart src ((src.take t.pos).count 10) = (src.take t.pos).length - lastLineLen (src.take t.pos) by omega]
  exact lastLine_no_nl _

/-- **C11 (line and column identify the offset exactly)** -/
theorem C11_location_exact (src : Str) (t : Tok) (hpos : t.pos ≤ src.length) :
    lineStart src ((Tok.location src t).1 - 1) + (Tok.location src t).2 = t.pos ∧
    10 ∉ (src.take t.pos).drop (lineStart src ((Tok.location src t).1 - 1)) :=
  location_exact src t

/-- form feed and vertical tab are ordinary characters: only a line feed starts a new line -/
example : Tok.location (Str.ofString "a\x0cb\x0bc\n  x") { str := [120], pos := 8 } = (2, 2) := by decide

end ChamVerif.C11Loc
