import ChamProofs.RunLemmas
/-! # C05 — a global definition of several names gives each name its own item

(The behaviour of /repo after the D-05g fix; before it the whole unpacked value was stored under every name.)
`C05_global_unpack`: storing the pairs `names.zip items` globally, for pairwise different
names, leaves every name bound to *its* item in the render context — what a macro call copies back into the scope. -/
namespace ChamVerif

/-- the global stores a multi-name `tal:define` / `tal:repeat` makes -/
def storeGlobals (pairs : List (Str × Val)) : RM Unit := pairs.forM (fun (nm, x) => setGlobal nm x)

theorem setGlobal_run (k : Str) (v : Val) (s : RState) :
    setGlobal k v s = .ok () { s with env := { s.env with rcontext := (k, v) :: s.env.rcontext.filter (·.1 != k) } } := rfl

/-- **C05 (each name its own item)** -/
theorem C05_global_unpack : ∀ (pairs : List (Str × Val)) (s : RState), (pairs.map (·.1)).Nodup →
    ∃ s', storeGlobals pairs s = .ok () s' ∧
      (∀ p ∈ pairs, lookupAssoc s'.env.rcontext p.1 = some p.2) ∧
      (∀ k, k ∉ pairs.map (·.1) → lookupAssoc s'.env.rcontext k = lookupAssoc s.env.rcontext k) ∧
      s'.env.own = s.env.own ∧ s'.streams = s.streams := by
  intro pairs
  induction pairs with
  | nil => intro s _; exact ⟨s, rfl, by simp, by simp, rfl, rfl⟩
  | cons p rest ih =>
    intro s hnd
    obtain ⟨k, v⟩ := p
    simp only [List.map_cons, List.nodup_cons] at hnd
    obtain ⟨s', hs', hin, hout, hown, hstr⟩ := ih _ hnd.2
    refine ⟨s', (RM.bind_ok (setGlobal_run k v s)).trans hs', ?_, ?_, hown, hstr⟩
    · intro p hp
      rcases List.mem_cons.mp hp with rfl | hp
      · rw [hout k hnd.1, lookupAssoc_cons, if_pos rfl]
      · exact hin p hp
    · intro k' hk'
      simp only [List.map_cons, List.mem_cons, not_or] at hk'
      rw [hout k' hk'.2, lookupAssoc_cons, lookupAssoc_filter, if_neg (Ne.symm hk'.1), if_neg hk'.1]

/-- the stores `evalDefine` / `evalRepeat` make for a global definition of several names are `storeGlobals` of the (name, item) pairs -/
theorem storeGlobals_tie : ∀ (l : List (Tok × Val)),
    l.forM (fun (p : Tok × Val) => setGlobal p.1.str p.2) = storeGlobals (l.map (fun p => (p.1.str, p.2))) := by
  intro l
  induction l with
  | nil => rfl
  | cons a r ih =>
    show (setGlobal a.1.str a.2 >>= fun _ => r.forM _) = (setGlobal a.1.str a.2 >>= fun _ => storeGlobals (r.map _))
    rw [ih]

end ChamVerif
