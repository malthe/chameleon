import ChamVerif.Lex
import ChamVerif.Parse
import ChamProofs.ReLemmas
/-! # C03 (tokenizer clause) — for every input string whatsoever the token stream
concatenates back to the input with contiguous source positions.

The theorems are about `Gen.XML_SPE`, the regex regenerated from `tokenize.re_xml_spe` on
every run; what is used of it is only its *shape* `[^<]+ | <T` with `T` unable to fail. -/
namespace ChamVerif

/-- recogniser of the shape `[^c]+ | c T` -/
def speTail (c : Nat) : Re → Option Re
  | .alt (.rep true 1 none (.cls true [.ch d])) (.seq (.chr e) T) => if d = c ∧ e = c then some T else none
  | _ => none

theorem speTail_shape (c : Nat) (r T : Re) (h : speTail c r = some T) : r = speShape c T := by
  unfold speTail at h
  split at h
  · split at h
    · rename_i hde
      cases h
      obtain ⟨rfl, rfl⟩ := hde
      rfl
    · cases h
  · cases h

/-- decidable well-formedness of a tokenizer regex -/
def tokenizerOK (r : Re) : Bool :=
  match speTail 60 r with
  | some T => alwaysSucceeds T
  | none => false

/-- the regex extracted from the current source has the shape (checked by evaluation) -/
theorem xml_spe_ok : tokenizerOK Gen.XML_SPE = true := by decide +kernel

theorem tokenizerOK_covering (u : Uni) (r : Re) (h : tokenizerOK r = true) (s : Array Nat) :
    Covering u s r ∧ matchAt u s r s.size = none := by
  unfold tokenizerOK at h
  split at h
  · rename_i T hT
    have := speTail_shape 60 r T hT
    subst this
    exact ⟨fun i hi => spe_total u 60 T h s i hi, spe_end u 60 T s⟩
  · cases h

/-- position chain of a token list -/
def Contiguous : Nat → List Tok → Prop
  | _, [] => True
  | p, t :: ts => t.pos = p ∧ t.str ≠ [] ∧ Contiguous (p + t.str.length) ts

theorem iterXmlWith_eq_pieces (r : Re) (s : Str) :
    iterXmlWith r s = (pieces s.toArray (finditer Gen.uni s.toArray r)).map (fun p => { str := p.1, pos := p.2 }) := by
  simp [iterXmlWith, pieces, subStr, Function.comp_def]

theorem contig_of_pieces (l : List (List Nat × Nat)) : ∀ p, Contig p l →
    Contiguous p (l.map (fun q => { str := q.1, pos := q.2 })) := by
  induction l with
  | nil => intro p _; trivial
  | cons a l ih =>
    intro p h
    obtain ⟨w, a⟩ := a
    simp only [Contig] at h
    exact ⟨h.1, h.2.1, ih _ h.2.2⟩

/-- **Token stream concatenates back to the input** — every tokenizer regex of the shape, every string. -/
theorem tokens_concat_of_ok (r : Re) (h : tokenizerOK r = true) (s : Str) :
    ((iterXmlWith r s).map (·.str)).flatten = s := by
  obtain ⟨hc, he⟩ := tokenizerOK_covering Gen.uni r h s.toArray
  have := (finditer_cover Gen.uni s.toArray r hc he).1
  rw [iterXmlWith_eq_pieces]
  simpa [Function.comp_def] using this

theorem tokens_contiguous_of_ok (r : Re) (h : tokenizerOK r = true) (s : Str) :
    Contiguous 0 (iterXmlWith r s) := by
  obtain ⟨hc, he⟩ := tokenizerOK_covering Gen.uni r h s.toArray
  have := (finditer_cover Gen.uni s.toArray r hc he).2
  rw [iterXmlWith_eq_pieces]
  exact contig_of_pieces _ 0 this

/-- **C03 (tokenizer)**: for the regex in /repo today and every string `s`. -/
theorem C03_tokens_concat (s : Str) : ((iterXml s).map (·.str)).flatten = s :=
  tokens_concat_of_ok Gen.XML_SPE xml_spe_ok s

theorem C03_tokens_contiguous (s : Str) : Contiguous 0 (iterXml s) :=
  tokens_contiguous_of_ok Gen.XML_SPE xml_spe_ok s

theorem anchored_of_contiguous (src : Str) : ∀ (ts : List Tok) (p : Nat),
    Contiguous p ts → (ts.map (·.str)).flatten = src.drop p → ∀ t ∈ ts, Anchored src t := by
  intro ts
  induction ts with
  | nil => intro p _ _ t ht; cases ht
  | cons a ts ih =>
    intro p hc hf t ht
    obtain ⟨hp, _, hrest⟩ := hc
    simp only [List.map_cons, List.flatten_cons] at hf
    rcases List.mem_cons.mp ht with h | h
    · subst h
      unfold Anchored
      rw [hp, ← hf]; simp
    · apply ih (p + a.str.length) hrest _ t h
      have := congrArg (List.drop a.str.length) hf
      simpa [List.drop_drop, Nat.add_comm] using this

theorem C03_tokens_anchored (s : Str) : ∀ t ∈ iterXml s, Anchored s t :=
  anchored_of_contiguous s (iterXml s) 0 (C03_tokens_contiguous s) (by simpa using C03_tokens_concat s)

/-- non-vacuity: the hypotheses are met by the live regex on a non-trivial string -/
example : (iterXml (Str.ofString "<a b='1'>x</a>")).length = 3 := by decide +kernel

/-! ## Dissecting a tag loses nothing when the pieces are contiguous -/

theorem contig_flatten (t : Tok) : ∀ (xs : List Tok) (p e : Nat), t.pos ≤ p →
    xs.all (anchoredIn t) = true → contigE p xs = some e →
    t.str.drop (p - t.pos) = (xs.map (·.str)).flatten ++ t.str.drop (e - t.pos) := by
  intro xs
  induction xs with
  | nil => intro p e _ _ h; cases h; rfl
  | cons x xs ih =>
    intro p e hp ha h
    simp only [List.all_cons, Bool.and_eq_true] at ha
    simp only [contigE] at h
    split at h
    · rename_i hemp
      rw [List.map_cons, List.flatten_cons, List.isEmpty_iff.mp hemp]
      exact ih p e hp ha.2 h
    · rename_i hne
      split at h
      · rename_i hpos
        have hanch := ha.1
        simp only [anchoredIn, hne, Bool.false_or, Bool.and_eq_true, decide_eq_true_eq, beq_iff_eq, hpos] at hanch
        -- `x` is `t`'s text at `p`, so `t`'s text from `p` on is `x` and then the text from `p + |x|` on
        have hx := List.take_append_drop x.str.length (t.str.drop (p - t.pos))
        rw [hanch.2, List.drop_drop] at hx
        rw [List.map_cons, List.flatten_cons, List.append_assoc, ← ih (p + x.str.length) e (by omega) ha.2 h,
          show p + x.str.length - t.pos = p - t.pos + x.str.length by omega]
        exact hx.symm
      · cases h

theorem pieces_flatten (g : Tag) (s : Tok) (hs : g.suffix = some s) :
    (g.pieces.map (·.str)).flatten = g.reassemble := by
  unfold Tag.pieces Tag.reassemble
  simp only [hs, List.map_append, List.map_cons, List.map_nil, List.flatten_append, List.flatten_cons,
    List.flatten_nil, List.append_nil, Option.map_some, Option.getD_some, List.append_assoc,
    List.cons_append, List.nil_append]
  congr 2
  -- what is left: the attributes' pieces, flattened, are the attributes' texts
  · congr 1
    induction g.attrs with
    | nil => simp
    | cons a as ih =>
      simp only [List.map_cons, List.flatten_cons, List.map_append, List.flatten_append, ih]
      simp [Attr.pieces, Attr.text]

/-- **C03 (dissection)**: whenever the decidable check `dissectOK` holds for a tag and its
dissection, the emitters' concatenation of the pieces is the tag as written. -/
theorem C03_dissect (t : Tok) (g : Tag) (h : g.dissectOK t = true) : g.reassemble = t.str := by
  unfold Tag.dissectOK at h
  simp only [Bool.and_eq_true, beq_iff_eq] at h
  obtain ⟨⟨hs, ha⟩, hc⟩ := h
  obtain ⟨s, hs'⟩ := Option.isSome_iff_exists.mp hs
  rw [← pieces_flatten g s hs']
  simpa using (contig_flatten t g.pieces t.pos _ (Nat.le_refl _) ha hc).symm

/-- non-vacuity: a real tag with three attribute styles satisfies the check -/
example : ((matchTag { str := lit "<a b=\"1\" c='2' d=3 e>", pos := 7 }).map
    (fun g => g.dissectOK { str := lit "<a b=\"1\" c='2' d=3 e>", pos := 7 })) = some true := by decide +kernel

end ChamVerif
