import ChamProofs.Root
/-! # C05 on the interpreter: local definitions and loop variables end with their element

A `tal:define` with any number of local clauses — aliases, single names, tuples, the same name defined more than once —
and a local `tal:repeat` with one loop variable or a tuple of them: when the element is finished every name it bound is
bound to what it was bound to before the element (or undefined again).  (`C05Eval` states the one-name cases.)

The backups are a list that is restored front to back, so what counts for a name is its *last* entry (`lastFor`);
`restore_get` says what a restore leaves behind, `evalDefine_acc` that the last entry for every defined name is the
binding the element started with. -/
namespace ChamVerif
open ChamVerif.Root ChamVerif.StepRel

/-- `m` ends by running `k`, from a state that the steps before it, all of which respect `I`, have led to -/
structure EndsWith (I : StepRel) (k m : RM Unit) : Prop where
  run : ∀ s s', m s = .ok () s' → ∃ s1, I.R s s1 ∧ k s1 = .ok () s'

theorem EndsWith.self {I : StepRel} {k : RM Unit} : EndsWith I k k := ⟨fun s _ h => ⟨s, I.refl s, h⟩⟩

theorem EndsWith.bind {I : StepRel} {α} {k : RM Unit} {m : RM α} {F : α → RM Unit} (hm : I.Tri m)
    (hF : ∀ a, EndsWith I k (F a)) : EndsWith I k (m >>= F) := by
  constructor
  intro s s' h
  obtain ⟨a, s1, hms, h⟩ := RM.bind_eq_ok.1 h
  obtain ⟨s2, hr, hk⟩ := (hF a).run s1 s' h
  exact ⟨s2, I.trans ((hm.at_ s).1 a s1 hms) hr, hk⟩

/-- the entry of a backup list that is restored last for `k` -/
def lastFor (k : Str) : List (Str × Option Val) → Option (Option Val)
  | [] => none
  | (k', v) :: rest =>
    match lastFor k rest with
    | some r => some r
    | none => if k' = k then some v else none

theorem lastFor_append (k : Str) (a b : List (Str × Option Val)) :
    lastFor k (a ++ b) = match lastFor k b with | some r => some r | none => lastFor k a := by
  induction a with
  | nil => simp only [List.nil_append, lastFor]; cases lastFor k b <;> rfl
  | cons p a ih =>
    obtain ⟨k', v⟩ := p
    simp only [List.cons_append, lastFor, ih]
    cases lastFor k b <;> rfl

theorem lastFor_map (k : Str) (g : Str → Option Val) (l : List Tok) :
    lastFor k (l.map (fun nm => (nm.str, g nm.str))) = if k ∈ l.map (·.str) then some (g k) else none := by
  induction l with
  | nil => rfl
  | cons a l ih =>
    simp only [List.map_cons, lastFor, ih, List.mem_cons]
    by_cases hl : k ∈ l.map (·.str)
    · simp only [hl, or_true, if_true]
    · by_cases ha : a.str = k
      · simp only [hl, ha, or_false, if_true, if_false]
      · have ha' : ¬k = a.str := fun e => ha e.symm
        simp only [hl, ha, ha', or_false, if_false]

def applyBk (e : Env) : Str × Option Val → Env
  | (k, some x) => { e with own := (k, x) :: e.own.filter (·.1 != k) }
  | (k, none) => { e with own := e.own.filter (·.1 != k) }

theorem restore_cons (p : Str × Option Val) (rest : List (Str × Option Val)) (s : RState) :
    restore (p :: rest) s = restore rest { s with env := applyBk s.env p } := by
  obtain ⟨k, v⟩ := p
  cases v <;> rfl

theorem restore_streams : ∀ (bk : List (Str × Option Val)) (s : RState), ∃ s', restore bk s = .ok () s' ∧ s'.streams = s.streams := by
  intro bk
  induction bk with
  | nil => exact fun s => ⟨s, rfl, rfl⟩
  | cons p rest ih => intro s; rw [restore_cons]; exact ih _

/-- **what a restore leaves behind**: for every name, its last entry in the list decides — the saved value, "was not
bound in this scope" (then the root dictionary shows through), or no entry (the binding stays as it is) -/
theorem restore_get : ∀ (bk : List (Str × Option Val)) (s : RState), ∃ s', restore bk s = .ok () s' ∧ rootOf s' = rootOf s ∧
    ∀ k, s'.env.get k = match lastFor k bk with
      | some (some x) => some x
      | some none => lookupAssoc s.env.root k
      | none => s.env.get k := by
  intro bk
  induction bk with
  | nil => intro s; exact ⟨s, rfl, rfl, fun k => rfl⟩
  | cons p rest ih =>
    intro s
    obtain ⟨s', h1, h2, h3⟩ := ih { s with env := applyBk s.env p }
    have hroot : (applyBk s.env p).root = s.env.root ∧ (applyBk s.env p).hasRoot = s.env.hasRoot := by
      obtain ⟨k', v⟩ := p; cases v <;> exact ⟨rfl, rfl⟩
    refine ⟨s', by rw [restore_cons]; exact h1, ?_, ?_⟩
    · rw [h2]; simp only [rootOf, hroot.1, hroot.2]
    · intro k
      rw [h3 k]
      obtain ⟨k', v⟩ := p
      simp only [lastFor]
      cases hl : lastFor k rest with
      | some r => cases r <;> simp only [hroot.1]
      | none =>
        by_cases hk : k' = k
        · subst hk
          cases v with
          | some x => simpa [applyBk] using Env.get_setOwn s.env k' k' x
          | none => simpa [applyBk] using Env.get_delOwn s.env k' k'
        · have hk' : ¬k = k' := fun e => hk e.symm
          cases v with
          | some x => simpa [applyBk, hk, hk'] using Env.get_setOwn s.env k' k x
          | none => simpa [applyBk, hk, hk'] using Env.get_delOwn s.env k' k

theorem restore_last (bk : List (Str × Option Val)) (k : Str) (s s1 s' : RState) (hr : rootOf s1 = rootOf s)
    (hl : lastFor k bk = some (s.env.get k)) (h : restore bk s1 = .ok () s') : s'.env.get k = s.env.get k := by
  obtain ⟨s2, h1, _, h3⟩ := restore_get bk s1
  rw [h1] at h; cases h
  rw [h3 k, hl]
  have hroot : s1.env.root = s.env.root := by
    have := hr; simp only [rootOf, Prod.mk.injEq] at this; exact this.1
  cases hg : s.env.get k with
  | some x => rfl
  | none =>
    -- unbound in `s`: in its root dictionary too
    rw [hroot]
    unfold Env.get at hg
    split at hg
    · cases hg
    · exact hg

/-- steps that keep the root of the scope and the binding of every name outside `N` -/
def only (N : List Str) : StepRel where
  R s s' := rootOf s' = rootOf s ∧ ∀ k, k ∉ N → s'.env.get k = s.env.get k
  E _ _ := True
  refl _ := ⟨rfl, fun _ _ => rfl⟩
  reflE _ := trivial
  trans h₁ h₂ := ⟨h₂.1.trans h₁.1, fun k hk => (h₂.2 k hk).trans (h₁.2 k hk)⟩
  transE _ _ := trivial

theorem only_liftX (N : List Str) {α} (m : Env → XM α) : (only N).Tri (liftX m) :=
  ⟨fun _ => ⟨fun _ _ h => by obtain ⟨_, rfl⟩ := liftX_ok h; exact ⟨rfl, fun _ _ => rfl⟩, fun _ _ _ => trivial⟩⟩

theorem only_setVar {N : List Str} {k : Str} (hk : k ∈ N) (v : Val) : (only N).Tri (setVar k v) :=
  Tri.modify _ fun s => ⟨rfl, fun k' hk' => (Env.get_setOwn s.env k k' v).trans (if_neg fun e : k' = k => hk' (e ▸ hk))⟩

theorem only_setVars (names : List Tok) (vs : List Val) :
    (only (names.map (·.str))).Tri ((names.zip vs).forM fun (p : Tok × Val) => setVar p.1.str p.2) := by
  suffices h : ∀ l : List (Tok × Val), (∀ p ∈ l, p.1 ∈ names) →
      (only (names.map (·.str))).Tri (l.forM fun (p : Tok × Val) => setVar p.1.str p.2) from
    h _ fun p hp => (List.of_mem_zip hp).1
  intro l
  induction l with
  | nil => intro _; exact Tri.pure ()
  | cons p l ih =>
    intro h
    exact Tri.bind (only_setVar (List.mem_map_of_mem (h p List.mem_cons_self)) _)
      fun _ => ih fun q hq => h q (List.mem_cons_of_mem _ hq)

theorem bindNames_only (names : List Tok) (v : Val) : (only (names.map (·.str))).Tri (bindNames names true v) := by
  unfold bindNames
  simp only [Bool.not_true, Bool.false_eq_true, if_false]
  split
  · exact Tri.bind (only_setVar (List.mem_map_of_mem List.mem_cons_self) v) fun _ => Tri.pure _
  · split <;> refine Tri.bind (by first | exact Tri.pure _ | exact Tri.raise _ | exact Tri.unsupported _) fun vs => ?_ <;>
      (split; exact Tri.raise _; exact Tri.bind (only_setVars names vs) fun _ => Tri.pure _)

theorem assignment_ok (cfg : ECfg) (al : List (Str × Val)) (names : List Tok) (e : EN)
    (next : List (Str × Option Val) → RM Unit) (s s' : RState) (h : assignment cfg al names e true next s = .ok () s') :
    ∃ s2, (rootOf s2 = rootOf s ∧ ∀ k, k ∉ names.map (·.str) → s2.env.get k = s.env.get k) ∧
      next (names.map fun nm => (nm.str, s.env.get nm.str)) s2 = .ok () s' := by
  rw [assignment_eq, mGet_bind] at h
  exact (EndsWith.bind (only_liftX _ _) fun v => .bind (bindNames_only names v) fun _ => .self).run s s' h

/-- the names a `tal:define` binds in the scope (aliases are not variables) -/
def assignedNames : List Assign → List Str
  | [] => []
  | .alias _ _ :: r => assignedNames r
  | .assign names _ _ :: r => names.map (·.str) ++ assignedNames r

def allLocal : List Assign → Bool
  | [] => true
  | .alias _ _ :: r => allLocal r
  | .assign _ _ l :: r => l && allLocal r

/-- **the backups a `tal:define` accumulates**: whatever its clauses are, the element ends by restoring a list whose
last entry for every name it assigned is that name's binding at the start of the element -/
theorem evalDefine_acc (cfg : ECfg) (node : Node) : ∀ (f : Nat) (defs : List Assign) (al : List (Str × Val))
    (backups : List (Str × Option Val)) (s s' : RState), allLocal defs = true →
    evalDefine cfg al f defs node backups s = .ok () s' →
    ∃ s1 bk, rootOf s1 = rootOf s ∧ restore (bk ++ backups) s1 = .ok () s' ∧
      ∀ k, lastFor k bk = if k ∈ assignedNames defs then some (s.env.get k) else none := by
  intro f
  induction f with
  | zero => intro defs al backups s s' _ h; simp [evalDefine, mUnsupported] at h
  | succ f ih =>
    intro defs al backups s s' hl h
    cases defs with
    | nil =>
      obtain ⟨_, s1, h1, h2⟩ := RM.bind_eq_ok.1 ((evalDefine_nil cfg al f node backups ▸ h :))
      exact ⟨s1, [], ((rk_all cfg f).1 al node).at_ _ _ _ h1, h2, fun k => by simp [lastFor, assignedNames]⟩
    | cons a rest =>
      cases a with
      | alias name e =>
        -- an alias is no variable: the expression changes the logs only
        obtain ⟨v, s1, h1, h2⟩ := RM.bind_eq_ok.1 ((evalDefine_alias cfg al f name e rest node backups ▸ h :))
        obtain ⟨x', rfl⟩ := liftX_ok h1
        obtain ⟨s2, bk, hr, hres, hlast⟩ := ih rest _ backups _ s' (by simpa [allLocal] using hl) h2
        exact ⟨s2, bk, hr, hres, hlast⟩
      | assign names e loc =>
        obtain ⟨rfl, hrest⟩ : loc = true ∧ allLocal rest = true := by simpa [allLocal] using hl
        rw [evalDefine_assign] at h
        obtain ⟨s2, htouch, h4⟩ := assignment_ok cfg al names e _ s s' h
        obtain ⟨s3, bk, hr, hres, hlast⟩ := ih rest al _ s2 s' hrest h4
        refine ⟨s3, bk ++ names.map (fun nm => (nm.str, s.env.get nm.str)), hr.trans htouch.1,
          by simpa [List.append_assoc] using hres, fun k => ?_⟩
        rw [lastFor_append]
        by_cases hk : k ∈ names.map (·.str)
        · rw [lastFor_map k (fun n => s.env.get n), if_pos hk]
          simp [assignedNames, hk]
        · rw [lastFor_map k (fun n => s.env.get n), if_neg hk, hlast k, htouch.2 k hk]
          simp [assignedNames, hk]

/-- **C05 (every local definition ends with its element)**: an element whose `tal:define` consists of local clauses —
any number of them; single names, tuples, aliases; a name defined more than once — leaves every name it defined bound to
exactly what it was bound to before the element (or undefined again), whatever the body did. -/
theorem C05_local_defines_restore (cfg : ECfg) (al : List (Str × Val)) (f : Nat) (defs : List Assign) (node : Node)
    (s s' : RState) (hl : allLocal defs = true) (h : eval cfg al (f + 1) (.define defs node) s = .ok () s') :
    ∀ k ∈ assignedNames defs, s'.env.get k = s.env.get k := by
  simp only [eval] at h
  obtain ⟨s1, bk, hr, hres, hlast⟩ := evalDefine_acc cfg node f defs al [] s s' hl h
  intro k hk
  rw [List.append_nil] at hres
  exact restore_last bk k s s1 s' hr (by rw [hlast k]; simp [hk]) hres

/-- **C05 (a tuple of loop variables ends with its element)**: `tal:repeat="(a, b, …) items"` (local) leaves each of
its variables bound to what it was bound to before the loop, after any number of iterations. -/
theorem C05_repeat_restores_all (cfg : ECfg) (al : List (Str × Val)) (f id : Nat) (names : List Tok) (e : EN) (ws : Str)
    (node : Node) (s s' : RState) (h : eval cfg al (f + 1) (.repeat_ id names e true ws node) s = .ok () s') :
    ∀ k ∈ names.map (·.str), s'.env.get k = s.env.get k := by
  rw [eval_repeat, repetition_eq, mGet_bind] at h
  simp only [if_true] at h
  obtain ⟨s1, hr, hk⟩ := (show EndsWith Root.rel (restore (names.map fun nm => (nm.str, s.env.get nm.str))) _ from by
    repeat' first
      | refine EndsWith.bind ?_ (fun _ => ?_)
      | exact EndsWith.self
      | exact ((Root.inv cfg).all f).2.2.2 al _ _ _ _ _ _ _ trivial
      | tri_step (Root.inv cfg)).run s s' h
  intro k hkm
  exact restore_last _ k s s1 s' hr ((lastFor_map k (fun n => s.env.get n) names).trans (if_pos hkm)) hk

/-- the hypotheses are met: a tuple definition whose expression gives a pair runs to the end of its element (and then
`C05_local_defines_restore` applies to both names) -/
theorem C05_tuple_define_runs (cfg : ECfg) (al : List (Str × Val)) (f : Nat) (a b : Tok) (e : EN) (t : Str)
    (s s1 : RState) (x y : Val) (hv : enVal cfg al e s = .ok (.tuple [x, y]) s1) :
    ∃ s', eval cfg al (f + 4) (.define [.assign [a, b] e true] (.text t)) s = .ok () s' ∧
      s'.env.get a.str = s.env.get a.str ∧ s'.env.get b.str = s.env.get b.str := by
  have hrun : ∃ s', eval cfg al (f + 4) (.define [.assign [a, b] e true] (.text t)) s = .ok () s' := by
    simp only [eval, evalDefine, Bool.not_true, Bool.false_eq_true, if_false, if_true]
    rw [mGet_bind]
    simp only [bind, hv, pure, List.length_cons, List.length_nil, List.zip_cons_cons, List.zip_nil_right, List.forM_eq_forM,
      List.forM_cons, List.forM_nil, setVar, modEnv, mModify]
    obtain ⟨s2, h2, _, _⟩ := restore_get ([(a.str, s.env.get a.str), (b.str, s.env.get b.str)] ++ []) (_ : RState)
    exact ⟨s2, by simpa [emit, mModify, bind, pure, List.forM_nil] using h2⟩
  obtain ⟨s', hs'⟩ := hrun
  have := C05_local_defines_restore cfg al (f + 3) [.assign [a, b] e true] (.text t) s s' (by simp [allLocal]) hs'
  exact ⟨s', hs', this a.str (by simp [assignedNames]), this b.str (by simp [assignedNames])⟩

end ChamVerif
