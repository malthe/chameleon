import ChamProofs.Props.C13
import ChamProofs.Props.C12
import ChamProofs.Props.C11Loc
/-! # C13 — `error.lineno` / `error.offset` identify the failing expression's offset exactly -/
namespace ChamVerif
open ChamVerif.C11Loc

/-- **C13 (the position `error` reports is the expression's)**: when the handler of `tal:on-error` runs after the expression at
offset `p` of the rendered template failed (`__token` set), the `error` variable the fallback reads holds the exception's class
and value and a (line, column) pair from which `p` is recovered: the start of that line plus the column, no line feed in between -/
theorem C13_error_position_exact (cfg : ECfg) (key depth saved : Nat) (ex : Exc) (s' s2 : RState) (p len : Nat)
    (hl : cfg.libs = []) (ht : s'.x.token = some (p, len)) (hp : p ≤ cfg.src.length)
    (h : onErrorHandle cfg key depth saved ex s' = some s2) :
    ∃ line col, s2.env.get (lit "error") = some (Val.errorInfo ex.cls ex.msg (some (line, col))) ∧
      lineStart cfg.src (line - 1) + col = p ∧ 10 ∉ (cfg.src.take p).drop (lineStart cfg.src (line - 1)) := by
  refine ⟨_, _, ?_, C11_location_exact cfg.src { str := [], pos := p } hp⟩
  rw [onErrorHandle_error cfg key depth saved ex s' s2 h, ht, Option.map_some, locate_main cfg p hl]

end ChamVerif
