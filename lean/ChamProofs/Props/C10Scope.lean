import ChamProofs.Settings
import ChamVerif.Baseline
/-! # C10 on the whole interpreter: i18n settings end with their element -/
namespace ChamVerif
open ChamVerif.I18n

/-- **C10 (domain, context and target language are those of the nearest enclosing element)**: whenever the evaluation
of a node completes — any node, scope, state and fuel; macro calls, slot fillers, repeats and translations included —
every function frame has the i18n settings it had before, provided the node contains no `tal:on-error` at its own
function level.  So a setting is in force exactly inside the element that makes it. -/
theorem C10_settings_scoped (cfg : ECfg) (al : List (Str × Val)) (f : Nat) (node : Node) (h : H node)
    (s s' : RState) (hs : s.env.frames ≠ []) (he : eval cfg al f node s = .ok () s') :
    settings s' = settings s :=
  ((neutral_all cfg f).1 al node h).at_ s hs () s' he

/-- the hypothesis is necessary (finding D-10a): when the guarded element raises, the restoring assignment of an
`i18n:domain` inside it is skipped and the setting stays in force.  Witness, decided by evaluation: an element with
`tal:on-error` whose body sets the domain "leak" and then fails (a start tag without suffix raises TypeError). -/
theorem C10_on_error_leaks :
    let cfg : ECfg := { tc := { rx := Rx.baseline, q := Quirks.current, oracle := [] }, tab := [], pyBuiltins := [], talesExc := [],
                        existsExc := [], excParents := [("TypeError", ["TypeError", "Exception"])], booleanAttrs := [], src := [] }
    let node : Node := .onError 1 (.text (lit "E")) (.domain (lit "leak") (.start [] [] none (.seq [])))
    let s0 : RState := { streams := [[]], env := { own := [], root := [], rcontext := [], repeats := [], frames := [{}] },
                         x := { token := some (0, 0) }, handled := 0 }
    (match eval cfg [] 6 node s0 with
     | .ok () s' => (s'.streams, s'.env.topFrame.domain)
     | _ => ([], none)) = ([lit "E"], some (lit "leak")) := by
  decide +kernel

end ChamVerif
