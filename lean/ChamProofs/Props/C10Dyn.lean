import ChamProofs.Props.C10
/-! # C10 — an element whose dynamic content is itself the message

`tal:content` / `tal:replace` together with `i18n:translate=""`: the value of the expression is the message id.
`C10_dynamic_text_once`: a string value is offered once, as a message of the template (not as an inserted value), with
the settings in force, and what the translation function answers is inserted (escaped for the site).
`C10_dynamic_number_once`: a number is handed over as it is — once; it comes back and is inserted as a number, and a
number is not offered a second time by the conversion.  (Converting the value to text *before* the element's call would
have an inserted message object translated twice.) -/
namespace ChamVerif

theorem C10_dynamic_text_once (cfg : ECfg) (al : List (Str × Val)) (f : Nat) (e : EN) (esc : Bool) (t top : Str) (rest : List Str)
    (s s1 : RState) (hv : enVal cfg al e s = .ok (.str t) s1) (hs : s1.streams = top :: rest) :
    ∃ s2, eval cfg al (f + 1) (.content e esc true) s = .ok () s2 ∧
      s2.x.tlog = s1.x.tlog.push { msgid := t, mapping := none, dflt := none, domain := s1.env.topFrame.domain,
                                   context := s1.env.topFrame.context, target := tTarget s1 } ∧
      s2.streams = (top ++ (if esc then quoteStr Site.content.q Site.content.qe (simpleTranslate cfg.tc.rx t none none)
                            else simpleTranslate cfg.tc.rx t none none)) :: rest := by
  simp only [eval, bind, hv, if_true, liftX, callTranslate, pure, offerCall, toQIn, mLiftR]
  cases esc <;>
    simp only [quoteVal, convertVal, emit, mModify, hs, Bool.false_eq_true, if_false, if_true] <;>
    exact ⟨_, rfl, (by simp only [tTarget]; congr), rfl⟩

theorem C10_dynamic_number_once (cfg : ECfg) (al : List (Str × Val)) (f : Nat) (e : EN) (esc : Bool) (i : Int) (top : Str) (rest : List Str)
    (s s1 : RState) (hv : enVal cfg al e s = .ok (.int i) s1) (hs : s1.streams = top :: rest) :
    ∃ s2, eval cfg al (f + 1) (.content e esc true) s = .ok () s2 ∧
      s2.x.tlog = s1.x.tlog.push (offerOf s1.env.topFrame (intToStr i)) ∧
      s2.streams = (top ++ intToStr i) :: rest := by
  have hstr : Val.strOf cfg.tab (.int i) = .ok (intToStr i) := by simp [Val.strOf, pure]
  simp only [eval, bind, hv, if_true, liftX, pure, offerCall, toQIn, mLiftR, hstr]
  cases esc <;>
    simp only [quoteVal, convertVal, emit, mModify, hs, Bool.false_eq_true, if_false, if_true] <;>
    exact ⟨_, rfl, rfl, rfl⟩

end ChamVerif
