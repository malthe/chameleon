import ChamProofs.Props.C05Multi
/-! # C05 on the interpreter: one local name ends with its element (the one-name cases of `C05Multi`) -/
namespace ChamVerif
open ChamVerif.Root

/-- **C05 (locals end with their element)**: when an element with a local `tal:define` of `name` is finished, `name` is
bound to exactly what it was bound to before — the outer binding is visible again unchanged, or the name is
undefined again — whatever the element's body did (including defining a global of the same name).  For every body,
scope, state and fuel. -/
theorem C05_local_define_restores (cfg : ECfg) (al : List (Str × Val)) (f : Nat) (nm : Tok) (e : EN) (node : Node)
    (s s' : RState) (h : eval cfg al (f + 3) (.define [.assign [nm] e true] node) s = .ok () s') :
    s'.env.get nm.str = s.env.get nm.str :=
  C05_local_defines_restore cfg al (f + 2) [.assign [nm] e true] node s s' rfl h nm.str (by simp [assignedNames])

/-- **C05 (the loop variable ends with its element)**: when an element with a (local) `tal:repeat` of `name` is
finished — after any number of iterations, whatever the body did — `name` is bound to exactly what it was bound to
before the loop, or is undefined again. -/
theorem C05_repeat_restores (cfg : ECfg) (al : List (Str × Val)) (f id : Nat) (nm : Tok) (e : EN) (ws : Str) (node : Node)
    (s s' : RState) (h : eval cfg al (f + 1) (.repeat_ id [nm] e true ws node) s = .ok () s') :
    s'.env.get nm.str = s.env.get nm.str :=
  C05_repeat_restores_all cfg al f id [nm] e ws node s s' h nm.str (by simp)

/-- **C08 (nothing at all for an empty iterable or `None`)**: a `tal:repeat` whose expression evaluates to `None` or to
an empty list renders nothing — the output stack is what it was after evaluating the expression, the body is not
evaluated — and the loop variable is restored. -/
theorem C08_empty_renders_nothing (cfg : ECfg) (al : List (Str × Val)) (f id : Nat) (nm : Tok) (e : EN) (ws : Str) (node : Node)
    (s s1 : RState) (v : Val) (hv : enVal cfg al e s = .ok v s1) (hempty : v = .none ∨ v = .list [] ∨ v = .tuple [])
    (hrep : s.env.get (lit "repeat") = some .repeatDict) :
    ∃ s', eval cfg al (f + 2) (.repeat_ id [nm] e true ws node) s = .ok () s' ∧ s'.streams = s1.streams ∧
      s'.env.get nm.str = s.env.get nm.str := by
  have hstep : ∃ s', eval cfg al (f + 2) (.repeat_ id [nm] e true ws node) s = .ok () s' ∧ s'.streams = s1.streams := by
    simp only [eval, if_true]
    rw [mGet_bind]
    simp only [bind, hv, hrep, pure]
    rcases hempty with h | h | h <;> subst h <;>
      simp only [evalRepeat, modEnv, mModify, mGet, forM_single, setVar, bind, pure, List.length_nil] <;>
      exact restore_streams _ _
  obtain ⟨s', hs', hstr⟩ := hstep
  exact ⟨s', hs', hstr, C05_repeat_restores cfg al (f + 1) id nm e ws node s s' hs'⟩

end ChamVerif
