import ChamVerif.Build
import ChamProofs.ListLemmas
/-! # C01 — TAL statements render with the language semantics, in one fixed order -/
namespace ChamVerif

def Wrapper.label : Wrapper → String
  | .defineSlot => "defineSlot" | .define => "define" | .case_ => "case_" | .condition => "condition"
  | .repeat_ => "repeat_" | .switch => "switch" | .domain => "domain" | .context => "context" | .target => "target"

/-- **tie**: the nesting order the model uses is the one the real `MacroProgram` produces today
(observed on two probe elements by `extract_tables.py`; outermost first) -/
theorem C01_wrapOrder_observed :
    (wrapOrder.map Wrapper.label).filter (Gen.wrapProbeCase.contains ·) = Gen.wrapProbeCase ∧
    (wrapOrder.map Wrapper.label).filter (Gen.wrapProbeSwitch.contains ·) = Gen.wrapProbeSwitch := by
  decide +kernel

-- 99: any number past the end; never taken, `wrapOrder` lists every kind
def idxOf (w : Wrapper) : Nat := (wrapOrder.findIdx? (· == w)).getD 99

/-- **C01 (one fixed order)**: in the nesting order of the statement nodes the definitions come before (are outside, hence
evaluated before) `tal:case`, `tal:condition`, `tal:repeat` and `tal:switch`, and `tal:condition` before `tal:repeat` —
whatever the order of the attributes (`applyWrappers` nests by kind).  That all of them are outside content, replacement and
tags is `C01_element_semantics_full`. -/
theorem C01_order :
    idxOf .define < idxOf .case_ ∧ idxOf .define < idxOf .condition ∧ idxOf .define < idxOf .repeat_ ∧
    idxOf .define < idxOf .switch ∧ idxOf .condition < idxOf .repeat_ := by decide

/-- `applyWrappers` nests exactly in `order`, independently of the order in which the wrappers
were collected from the start tag: lookup by wrapper kind. -/
theorem applyWrappers_perm (ws₁ ws₂ : List (Wrapper × (Node → Node))) (order : List Wrapper) (inner : Node)
    (h : ∀ w, ws₁.find? (·.1 == w) = ws₂.find? (·.1 == w)) :
    applyWrappers ws₁ order inner = applyWrappers ws₂ order inner := by
  unfold applyWrappers
  generalize order.reverse = o
  induction o generalizing inner with
  | nil => rfl
  | cons w o ih =>
    simp only [List.foldl_cons]
    rw [h w]
    exact ih _

theorem mem_iff_nsGet (l : List ((Str × Str) × Tok)) (h : (l.map (·.1)).Nodup) (k : Str × Str) (v : Tok) :
    (k, v) ∈ l ↔ nsGet l k = some v := ⟨List.find?_key_of_mem h, List.mem_of_find?_key⟩

/-- statement attributes are read from the namespace dictionary *by key*: for two orderings of the
same key/value pairs (keys distinct) every lookup agrees — the reason the order in which the
statement attributes are written in the start tag cannot matter. -/
theorem nsGet_perm (l₁ l₂ : List ((Str × Str) × Tok)) (hp : l₁.Perm l₂)
    (hnd : (l₁.map (·.1)).Nodup) (k : Str × Str) : nsGet l₁ k = nsGet l₂ k := by
  apply Option.ext; intro v
  rw [← mem_iff_nsGet l₁ hnd, ← mem_iff_nsGet l₂ ((hp.map _).nodup_iff.mp hnd), hp.mem_iff]

end ChamVerif
