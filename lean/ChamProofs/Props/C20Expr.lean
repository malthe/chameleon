import ChamProofs.Props.C20
import ChamProofs.Props.C06Parts
/-! # C20 — a text template with one `${expr}`: the whole render function

`C20_render_verbatim` covers sources without `${`.  `C20_render_text_expr_text`: when the Interpolator splits the
(newline-normalised) source into `pre`, the expression and `post` — which `C06_text_expr_text` proves for
`pre ++ "${" ++ e ++ "}" ++ post` — and the expression evaluates to `v` whose unescaped string form is `t`, the template
renders to `pre ++ t ++ post`: `<`, `&`, tags and statement-like text in `pre` and `post` are copied, the value is inserted
without escaping, nothing else is evaluated. -/
namespace ChamVerif
open ChamVerif.C06Parts

/-- a text-mode source with `${` compiles to a single interpolation node over the whole text -/
theorem C20_build_interp (c : BCfg) (src : Str) (hq : c.q.textModeIdentify = false) (hn : hasInterp src = true) :
    buildProgram c true src =
      .ok (.seq [.interpolation (.interp { str := src, pos := 0 } (if c.escape then .text else .none) none true true c.implicitI18nTranslate)], []) := by
  rw [buildProgram_text c src hq, visitText_interp c _ _ rfl hn]; rfl

theorem compileEN_interp_ok (tc : TCfg) (strict : Bool) (tok : Tok) (esc : Esc) (parts : List IPart)
    (hparts : compileInterp tc 64 tok true tc.decodeInterp = .ok parts) (hpu : partsUnsupported parts = false) :
    compileEN tc strict 16 (.interp tok esc none true true false) = .ok () := by
  rw [show (16 : Nat) = 15 + 1 from rfl, compileEN]
  simp only [hparts, hpu, bind, Except.bind, pure, Except.pure, laxFilter, Bool.false_eq_true, if_false]

/-- evaluating the program of such a text template: the one interpolation node emits `pre ++ value ++ post` (61: the fuel
`evalEN` has left for the expression, see `C06_interp_value`) -/
theorem eval_text_interp (cfg : ECfg) (al : List (Str × Val)) (f : Nat) (tok tokE : Tok) (pre post text : Str) (te : TExpr)
    (s : RState) (top : Str) (rest : List Str) (v : Val) (t : Str) (x1 x2 : XState)
    (hparts : compileInterp cfg.tc 64 tok true cfg.tc.decodeInterp = .ok [.lit pre, .expr te tokE text, .lit post])
    (hs : s.streams = top :: rest)
    (hev : evalT cfg al s.env 61 te .none none { s.x with token := some ((Tok.strip tokE).pos, (Tok.strip tokE).str.length) } = .ok v x1)
    (hconv : convPartX cfg s.env .none none true v x1 = .ok (some t) x2) :
    eval cfg al (f + 3) (.seq [.interpolation (.interp tok .none none true true false)]) s =
      .ok () { s with x := x2, streams := (top ++ (pre ++ (t ++ (post ++ [])))) :: rest } := by
  have hval : evalEN cfg al s.env 64 (.interp tok .none none true true false) s.x =
      .ok (Val.str (pre ++ (t ++ (post ++ [])))) x2 := by
    rw [show (64 : Nat) = 63 + 1 from rfl, C06_interp_value cfg al s.env 63 tok tokE pre post text te .none none hparts]
    simp only [bind, pure, xSetToken, hev, hconv, Option.getD]
  simp only [eval, evalList, enVal, liftX, hval, bind, pure, emit, mModify, hs]

theorem C20_render_text_expr_text (r : RenderReq) (pre post text : Str) (te : TExpr) (tokE : Tok) (v : Val) (t : Str) (x1 x2 : XState)
    (ht : r.textMode = true) (hq : r.bcfg.q.textModeIdentify = false) (hi : r.bcfg.implicitI18nTranslate = false)
    (hl : r.libs = []) (hn : hasInterp (textBody r) = true)
    (hparts : compileInterp (tcOf r) 64 { str := textBody r, pos := 0 } true false = .ok [.lit pre, .expr te tokE text, .lit post])
    (hsup : te.hasUnsupported = false)
    (hev : ∀ booleans node, evalT (cfgOf r booleans node) [] (env0Of r) 61 te .none none
        { log := #[], tlog := #[], token := some ((Tok.strip tokE).pos, (Tok.strip tokE).str.length) } = .ok v x1)
    (hconv : ∀ booleans node, convPartX (cfgOf r booleans node) (env0Of r) .none none true v x1 = .ok (some t) x2) :
    render r = .out (pre ++ (t ++ (post ++ []))) x2.log x2.tlog 0 := by
  have hdec : (tcOf r).decodeInterp = false := by simp [tcOf, ht]
  have hparts' : compileInterp (tcOf r) 64 { str := textBody r, pos := 0 } true (tcOf r).decodeInterp =
      .ok [.lit pre, .expr te tokE text, .lit post] := by rw [hdec]; exact hparts
  have hpu : partsUnsupported [.lit pre, .expr te tokE text, .lit post] = false := by
    simp [partsUnsupported, hsup]
  rw [render_ok r hl (.seq [.interpolation (.interp { str := textBody r, pos := 0 } .none none true true false)]) _
    (fun b => by
      rw [ht, C20_build_interp { r.bcfg with booleanAttrs := b, escape := !true } _ hq hn]
      simp only [hi, Bool.not_true, Bool.false_eq_true, if_false])
    (compileCheck_seq1 _ _ _ _ (checkNode_interpolation _ _ _ _ _ (compileEN_interp_ok _ _ _ _ _ hparts' hpu)))
    (fun b => eval_text_interp (cfgOf r b _) [] _ _ tokE pre post text te _ [] [] v t x1 x2 hparts' rfl (hev _ _) (hconv _ _))]
  rfl

end ChamVerif
