import ChamVerif.Sys.Load
/-! # C15 — threads of one process loading the same cached module

`C15_loaded_module_complete`: with `ModuleLoader._load` as it is (execute, *then* register; every look at `sys.modules` under
the lock) every thread that returns from `_load`, under any schedule of any number of threads, returns a module whose
`exec_module` has finished — no thread sees a registered but not yet executed module.  `C15_load_registered_first_counterexample`:
with the module registered before it is executed and a lock-free look first (the "optimised" protocol) a schedule of two
threads returns an unexecuted module to the second one. -/
namespace ChamVerif.Sys.Load

/-- what a program counter guarantees about the module object the thread holds, for the protocol as `_load` has it (`LQuirks`
`{}`: execute, then register): after `created` it exists, from `executed` on its `exec_module` has finished, and a thread that
is `done` reports a complete module.  (With `registerFirst` the step to `executed` registers the module and the step to
`registered` executes it, and the middle clause fails: the counterexample at the end of the file.) -/
def Ob (objs : List Bool) (th : Th) : Prop :=
  (th.pc = .created → ∃ id, th.mine = some id ∧ id < objs.length) ∧
  ((th.pc = .executed ∨ th.pc = .registered ∨ th.pc = .released) → ∃ id, th.mine = some id ∧ objDone objs id = true) ∧
  (∀ b, th.pc = .done b → b = true)

/-- whatever `sys.modules` holds has been executed, and every thread's `Ob` is true of the object table -/
def Inv (s : LState) : Prop :=
  (∀ id, s.reg = some id → objDone s.objs id = true) ∧ (∀ (t : Nat) (th : Th), s.ths[t]? = some th → Ob s.objs th)

theorem objDone_lt (objs : List Bool) (id : Nat) (h : objDone objs id = true) : id < objs.length := by
  unfold objDone at h
  rcases Nat.lt_or_ge id objs.length with hl | hl
  · exact hl
  · rw [List.getElem?_eq_none hl] at h; cases h

theorem objDone_append (objs : List Bool) (id : Nat) (h : objDone objs id = true) : objDone (objs ++ [false]) id = true := by
  have hl := objDone_lt objs id h
  unfold objDone at h ⊢
  rw [List.getElem?_append_left hl]; exact h

theorem objDone_set (objs : List Bool) (i id : Nat) (h : objDone objs id = true) : objDone (objs.set i true) id = true := by
  have hl := objDone_lt objs id h
  unfold objDone at h ⊢
  rw [List.getElem?_set]
  by_cases hij : i = id
  · subst hij; simp [hl]
  · simp only [hij, if_false]; exact h

theorem objDone_set_self (objs : List Bool) (i : Nat) (h : i < objs.length) : objDone (objs.set i true) i = true := by
  unfold objDone
  rw [List.getElem?_set]
  simp [h]

theorem Ob_mono (objs objs' : List Bool) (th : Th) (hlen : objs.length ≤ objs'.length)
    (hd : ∀ id, objDone objs id = true → objDone objs' id = true) (h : Ob objs th) : Ob objs' th := by
  obtain ⟨h1, h2, h3⟩ := h
  refine ⟨?_, ?_, h3⟩
  · intro hp; obtain ⟨id, hm, hl⟩ := h1 hp; exact ⟨id, hm, by omega⟩
  · intro hp; obtain ⟨id, hm, hdone⟩ := h2 hp; exact ⟨id, hm, hd id hdone⟩

theorem inv_update (s : LState) (t : Nat) (th' : Th) (objs' : List Bool) (reg' lock' : Option Nat)
    (hi : Inv s) (hlen : s.objs.length ≤ objs'.length) (hd : ∀ id, objDone s.objs id = true → objDone objs' id = true)
    (hreg : ∀ id, reg' = some id → objDone objs' id = true) (hob : Ob objs' th') :
    Inv { lock := lock', reg := reg', objs := objs', ths := s.ths.set t th' } := by
  refine ⟨hreg, ?_⟩
  intro t' th hget
  simp only [List.getElem?_set] at hget
  split at hget
  · split at hget
    · cases hget; exact hob
    · cases hget
  · exact Ob_mono s.objs objs' th hlen hd (hi.2 t' th hget)

theorem Ob_idle (objs : List Bool) (th : Th) (h : th.pc = .start ∨ th.pc = .locked) : Ob objs th := by
  refine ⟨?_, ?_, ?_⟩
  · intro hp; rcases h with h | h <;> rw [h] at hp <;> cases hp
  · intro hp; rcases h with h | h <;> rw [h] at hp <;> rcases hp with hp | hp | hp <;> cases hp
  · intro b hp; rcases h with h | h <;> rw [h] at hp <;> cases hp

theorem Ob_holds (objs : List Bool) (th : Th) (id : Nat) (hm : th.mine = some id) (hd : objDone objs id = true)
    (h : th.pc = .executed ∨ th.pc = .registered ∨ th.pc = .released ∨ th.pc = .done true) : Ob objs th := by
  refine ⟨?_, fun _ => ⟨id, hm, hd⟩, ?_⟩
  · intro hp; rcases h with h | h | h | h <;> rw [h] at hp <;> cases hp
  · intro b hp; rcases h with h | h | h | h <;> rw [h] at hp <;> cases hp; rfl

theorem Ob_created (objs : List Bool) (th : Th) (id : Nat) (hm : th.mine = some id) (hl : id < objs.length)
    (h : th.pc = .created) : Ob objs th := by
  refine ⟨fun _ => ⟨id, hm, hl⟩, ?_, ?_⟩
  · intro hp; rw [h] at hp; rcases hp with hp | hp | hp <;> cases hp
  · intro b hp; rw [h] at hp; cases hp

theorem inv_step (s : LState) (t : Nat) (hi : Inv s) : Inv (step {} s t) := by
  -- every step replaces one thread and lets the object table grow (`inv_update`); what is left is the new thread's `Ob`
  unfold step
  cases hth : s.ths[t]? with
  | none => exact hi
  | some th =>
    have hob := hi.2 t th hth
    simp only
    cases hpc : th.pc with
    | start =>
      simp only [Bool.false_and, Bool.false_eq_true, if_false]
      split
      · exact inv_update s t _ s.objs s.reg _ hi (Nat.le_refl _) (fun _ h => h) hi.1 (Ob_idle _ _ (Or.inr rfl))
      · exact hi
    | locked =>
      cases hr : s.reg with
      | some id =>
        exact inv_update s t _ s.objs s.reg _ hi (Nat.le_refl _) (fun _ h => h) hi.1
          (Ob_holds _ _ id rfl (hi.1 id hr) (Or.inr (Or.inl rfl)))
      | none =>
        have := inv_update s t { pc := .created, mine := some s.objs.length } (s.objs ++ [false]) s.reg s.lock hi (by simp)
          (fun id h => objDone_append s.objs id h) (by intro id h; rw [hr] at h; cases h)
          (Ob_created _ _ s.objs.length rfl (by simp) rfl)
        simpa [setTh, hr] using this
    | created =>
      obtain ⟨id, hm, hl⟩ := hob.1 hpc
      simp only [Bool.false_eq_true, if_false, hm, Option.getD_some]
      exact inv_update s t _ (s.objs.set id true) s.reg _ hi (by simp) (fun j h => objDone_set s.objs id j h)
        (fun j h => objDone_set s.objs id j (hi.1 j h))
        (Ob_holds _ _ id rfl (objDone_set_self s.objs id hl) (Or.inl rfl))
    | executed =>
      obtain ⟨id, hm, hdone⟩ := hob.2.1 (Or.inl hpc)
      simp only [Bool.false_eq_true, if_false]
      exact inv_update s t _ s.objs th.mine _ hi (Nat.le_refl _) (fun _ h => h)
        (by intro j h; rw [hm] at h; cases h; exact hdone)
        (Ob_holds _ _ id hm hdone (Or.inr (Or.inl rfl)))
    | registered =>
      obtain ⟨id, hm, hdone⟩ := hob.2.1 (Or.inr (Or.inl hpc))
      exact inv_update s t _ s.objs s.reg none hi (Nat.le_refl _) (fun _ h => h) hi.1
        (Ob_holds _ _ id hm hdone (Or.inr (Or.inr (Or.inl rfl))))
    | released =>
      obtain ⟨id, hm, hdone⟩ := hob.2.1 (Or.inr (Or.inr hpc))
      have hd : objDone s.objs (th.mine.getD 0) = true := by rw [hm]; exact hdone
      simp only [hd]
      exact inv_update s t _ s.objs s.reg _ hi (Nat.le_refl _) (fun _ h => h) hi.1
        (Ob_holds _ _ id hm hdone (Or.inr (Or.inr (Or.inr rfl))))
    | done b => exact hi

theorem inv_init (n : Nat) : Inv (init n) := by
  refine ⟨?_, ?_⟩
  · intro id h; cases h
  intro t th hget
  have : th = {} := by
    simp only [init] at hget
    have := List.mem_of_getElem? hget
    exact (List.mem_replicate.mp this).2
  subst this
  exact Ob_idle _ _ (Or.inl rfl)

theorem inv_run (s : LState) (sched : List Nat) (hi : Inv s) : Inv (run {} s sched) :=
  List.foldlRecOn sched (step {}) hi fun s hs t _ => inv_step s t hs

/-- **C15 (a loaded module is complete)**: any number of threads, any schedule: every thread that has returned from `_load`
got a module whose `exec_module` had finished -/
theorem C15_loaded_module_complete (n : Nat) (sched : List Nat) : ∀ b ∈ results (run {} (init n) sched), b = true := by
  intro b hb
  have hi := inv_run (init n) sched (inv_init n)
  simp only [results, List.mem_filterMap] at hb
  obtain ⟨th, hmem, hpc⟩ := hb
  obtain ⟨t, hget⟩ := List.getElem?_of_mem hmem
  have hob := hi.2 t th hget
  cases hp : th.pc with
  | done b' =>
    simp only [hp, Option.some.injEq] at hpc
    rw [← hpc]; exact hob.2.2 b' hp
  | _ => simp [hp] at hpc

/-- with the module registered before it is executed and a lock-free look at `sys.modules` first, thread 1 returns the module
thread 0 has registered but not executed yet -/
theorem C15_load_registered_first_counterexample :
    false ∈ results (run { registerFirst := true, lockFreeHit := true } (init 2) [0, 0, 0, 1, 1]) := by decide

/-- … and each of the two changes alone is harmless on that schedule, continued until both threads have returned: it takes both -/
example : results (run { registerFirst := true } (init 2) [0, 0, 0, 1, 1, 0, 0, 0, 1, 1, 1, 1]) = [true, true] := by decide
example : results (run { lockFreeHit := true } (init 2) [0, 0, 0, 1, 1, 0, 0, 0, 1, 1, 1, 1]) = [true, true] := by decide

end ChamVerif.Sys.Load
