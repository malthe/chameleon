import ChamVerif.StaticHyp
import ChamProofs.Props.C03
import ChamProofs.Props.C06
import ChamProofs.ExceptLemmas
/-! # C03 — a statement-free document that compiles renders to itself (on the static path of the model)

The element parser keeps every token; the emitters re-assemble every tag from its pieces.  Under the decidable
per-token check `tokOK` (each tag token is what its dissection re-assembles to, each processing instruction what its
name and text re-assemble to; for tags that is the conclusion of `C03_dissect`, whose premise `dissectOK` the `dissect`
operation of the driver evaluates on every document — `C03_dissect` itself is not used below) the rendering of a
document without `$`, `<!--!`/`<!--?` comments and language markup is its source. -/
namespace ChamVerif

theorem rawItems_append : ∀ (a b : List Item), rawItems (a ++ b) = rawItems a ++ rawItems b
  | [], b => by simp [rawItems]
  | i :: is, b => by simp [rawItems, rawItems_append is b]

theorem parseTag_tag (rx : Rx) (t : Tok) (m : NsMap) (r : Bool) (e : Elem) (m' : NsMap)
    (h : parseTag rx t m r = .ok (e, m')) : matchTagWith rx t = some e.tag := by
  unfold parseTag at h
  split at h
  · cases h
  · rename_i g hm
    obtain ⟨ns, _, h⟩ := Except.bind_eq_ok.mp h
    cases h
    exact hm

theorem rawItems_push (q : Array Item) (it : Item) : rawItems (q.push it).toList = rawItems q.toList ++ rawItem it := by
  simp [rawItems_append, rawItems]

/-- **the parser keeps every token**: one step -/
theorem parseToken_raw (rx : Rx) (r : Bool) (ps ps' : PState) (t : Tok) (hok : tokOK rx t = true)
    (h : parseToken rx r ps t = .ok ps') : rawItems ps'.queue.toList = rawItems ps.queue.toList ++ t.str := by
  unfold parseToken at h
  unfold tokOK at hok
  obtain ⟨kind, hk, h⟩ := Except.bind_eq_ok.mp h
  simp only [hk] at hok
  -- a start, end, empty or `<?xml` tag: the element's tag is the dissection of `t`, which re-assembles to `t`
  have htag : ∀ (ρ : Tag → Str) m e m', parseTag rx t m r = .ok (e, m') →
      (match matchTagWith rx t with | some g => ρ g == t.str | none => false) = true →
      ρ e.tag = t.str := fun ρ m e m' hp hok => by
    rw [parseTag_tag rx t m r e m' hp] at hok; exact eq_of_beq hok
  cases kind <;> simp only at h hok
  case text | comment | cdata | declaration | error => cases h; exact rawItems_push _ _
  case pi =>
    cases hm : matchAt Gen.uni t.str.toArray rx.pi 0 <;> simp only [hm] at h hok <;> cases h
    · exact rawItems_push _ _
    · rw [rawItems_push, ← eq_of_beq hok]; simp [rawItem]
  case startTag =>
    obtain ⟨⟨e, m'⟩, hp, h⟩ := Except.bind_eq_ok.mp h
    cases h
    rw [← htag Tag.reassemble _ e m' hp hok]; exact rawItems_push _ _
  case emptyTag | xmlDecl =>
    obtain ⟨⟨e, m'⟩, hp, h⟩ := Except.bind_eq_ok.mp h
    cases h
    rw [rawItems_push, ← htag Tag.reassemble _ e m' hp hok]; simp [rawItem, rawItems]
  case endTag =>
    split at h
    · cases h
    · obtain ⟨⟨e, m'⟩, hp, h⟩ := Except.bind_eq_ok.mp h
      have hend : e.tag.reassembleEnd false = t.str := htag (Tag.reassembleEnd false) _ e m' hp hok
      split at h
      · cases h
      · split at h
        · -- the queue from the start tag on becomes one element
          rename_i pos _ _ _ s hq
          cases h
          obtain ⟨hl, hv⟩ := List.getElem?_eq_some_iff.mp (Array.getElem?_toList ▸ hq)
          rw [rawItems_push]
          conv => rhs; rw [← List.take_append_drop pos ps.queue.toList, List.drop_eq_getElem_cons hl, hv]
          simp [rawItems_append, rawItems, rawItem, hend]
        · cases h

/-- **the element parser keeps every token** (under the per-token dissection check): the items' source text is the
concatenation of the tokens -/
theorem parseTokens_raw (rx : Rx) (r : Bool) (toks : List Tok) (items : List Item) (hok : ∀ t ∈ toks, tokOK rx t = true)
    (h : parseTokens rx r toks = .ok items) : rawItems items = (toks.map (·.str)).flatten := by
  unfold parseTokens at h
  obtain ⟨ps, hf, hp⟩ := Except.bind_eq_ok.mp h
  cases hp
  simpa [rawItems] using foldlM_ok_inv (parseToken rx r)
    (fun done ps => rawItems ps.queue.toList = (done.map (·.str)).flatten) toks [] _ ps
    (fun d t ps ps' ht hi hs => by rw [parseToken_raw rx r ps ps' t (hok t ht) hs, hi]; simp) rfl hf

theorem hasInterp_dollar : ∀ (s : Str), hasInterp s = true → 36 ∈ s := by
  intro s
  induction s using hasInterp.induct <;> simp_all [hasInterp]

theorem staticText_clean (s : Str) (h : s.contains 36 = false) : staticText s = .ok s := by
  have hn : 36 ∉ s := by simpa using h
  unfold staticText
  have hi : hasInterp s = false := by
    cases hh : hasInterp s
    · rfl
    · exact absurd (hasInterp_dollar s hh) hn
  simp [hi, undouble, undouble_no_dollar s hn]

theorem staticStart_clean (e : Elem) (h : elemClean e = true) : staticStart e = .ok e.tag.reassemble := by
  unfold elemClean at h
  simp only [Bool.and_eq_true, Bool.not_eq_eq_eq_not, Bool.not_true] at h
  obtain ⟨⟨⟨h1, h2⟩, h3⟩, h4⟩ := h
  have h1' : e.ns ∉ dropNs := by simpa using h1
  unfold staticStart
  cases hs : e.tag.suffix with
  | none => simp [hs] at h4
  | some sfx =>
    simp only [List.contains_eq_mem] at h2
    simp [h1', h2, h3, pure, Except.pure]

mutual
theorem staticItem_clean (q : Quirks) (hq : q.endTagSpaceTwice = false) : ∀ (i : Item), cleanItem i = true →
    staticItem q i = .ok (rawItem i)
  | .text t, h => by
    simp only [cleanItem, Bool.not_eq_eq_eq_not, Bool.not_true] at h
    simp [staticItem, rawItem, staticText_clean t.str h]
  | .comment t, h => by
    simp only [cleanItem, Bool.and_eq_true, Bool.not_eq_eq_eq_not, Bool.not_true] at h
    simp [staticItem, rawItem, h.1.1, h.1.2, h.2, pure, Except.pure]
  | .cdata t, h => by
    simp only [cleanItem, Bool.not_eq_eq_eq_not, Bool.not_true] at h
    simp [staticItem, rawItem, h, pure, Except.pure]
  | .dflt t, _ => by simp [staticItem, rawItem, pure, Except.pure]
  | .pi name text, h => by
    simp only [cleanItem, Bool.and_eq_true, Bool.not_eq_eq_eq_not, Bool.not_true] at h
    have hne : ¬ name.str = lit "python" := by
      intro e; have := h.1; simp [e] at this
    have h2 : (lit "<?" ++ (name.str ++ (text.str ++ lit "?>"))).contains 36 = false := by
      simpa [List.append_assoc] using h.2
    simp [staticItem, rawItem, hne, staticText_clean _ h2]
  | .startTag e, h => by
    simp only [cleanItem] at h
    simp [staticItem, rawItem, staticStart_clean e h]
  | .element s e cs, h => by
    simp only [cleanItem, Bool.and_eq_true] at h
    have hcs := staticItems_clean q hq cs h.2
    cases e with
    | none => simp [staticItem, rawItem, staticStart_clean s h.1, hcs, bind, Except.bind, pure, Except.pure]
    | some en => simp [staticItem, rawItem, staticStart_clean s h.1, hcs, staticEnd, hq, bind, Except.bind, pure, Except.pure]
theorem staticItems_clean (q : Quirks) (hq : q.endTagSpaceTwice = false) : ∀ (is : List Item), cleanItems is = true →
    staticItems q is = .ok (rawItems is)
  | [], _ => by simp [staticItems, rawItems, pure, Except.pure]
  | i :: is, h => by
    simp only [cleanItems, Bool.and_eq_true] at h
    simp [staticItems, rawItems, staticItem_clean q hq i h.1, staticItems_clean q hq is h.2, bind, Except.bind, pure, Except.pure]
end

theorem static_identity_with (rx : Rx) (hrx : tokenizerOK rx.xmlSpe = true) (q : Quirks) (hq : q.endTagSpaceTwice = false)
    (r : Bool) (src : Str) (items : List Item)
    (hparse : parseTokens rx r (iterXmlWith rx.xmlSpe (if isXmlDoc src then src else normalizeNewlines src)) = .ok items)
    (htok : ∀ t ∈ iterXmlWith rx.xmlSpe (if isXmlDoc src then src else normalizeNewlines src), tokOK rx t = true)
    (hclean : cleanItems items = true) :
    staticRenderWith rx q r src = .ok (if isXmlDoc src then src else normalizeNewlines src) := by
  unfold staticRenderWith
  simp only [hparse, liftC, bind, Except.bind]
  rw [staticItems_clean q hq items hclean, parseTokens_raw rx r _ items htok hparse, tokens_concat_of_ok rx.xmlSpe hrx]

/-- **C03 (a statement-free document that compiles renders to itself)**: on the static path of the model, for the regexes
regenerated from /repo on this run.  If every token of the (newline-normalised) source dissects without loss
(`tokOK`, a decidable per-token check) and the parsed document asks for no evaluation (`cleanItems`), the rendering is
the source — tag spelling, attribute order, quoting, white space inside tags, comments, CDATA, doctype, processing
instructions and character entities included, whatever the document is. -/
theorem C03_static_identity (q : Quirks) (hq : q.endTagSpaceTwice = false) (r : Bool) (src : Str) (items : List Item)
    (hparse : parseTokens Rx.live r (iterXmlWith Rx.live.xmlSpe (if isXmlDoc src then src else normalizeNewlines src)) = .ok items)
    (htok : ∀ t ∈ iterXmlWith Rx.live.xmlSpe (if isXmlDoc src then src else normalizeNewlines src), tokOK Rx.live t = true)
    (hclean : cleanItems items = true) :
    staticRender q r src = .ok (if isXmlDoc src then src else normalizeNewlines src) :=
  static_identity_with Rx.live xml_spe_ok q hq r src items hparse htok hclean

/-- … in one piece: whenever the decidable hypotheses hold, the static rendering is the (normalised) source -/
theorem C03_static_identity' (q : Quirks) (hq : q.endTagSpaceTwice = false) (r : Bool) (src : Str)
    (h : staticHyp r src = true) :
    staticRender q r src = .ok (if isXmlDoc src then src else normalizeNewlines src) := by
  unfold staticHyp at h
  simp only [Bool.and_eq_true, List.all_eq_true] at h
  obtain ⟨htok, hrest⟩ := h
  cases hp : parseTokens Rx.live r (iterXmlWith Rx.live.xmlSpe (if isXmlDoc src then src else normalizeNewlines src)) with
  | error e => simp [hp] at hrest
  | ok items =>
    simp only [hp] at hrest
    exact C03_static_identity q hq r src items hp htok hrest

/-- non-vacuity: a document with attributes in three quoting styles, an entity, a comment, an empty element and
CR/LF line ends meets the hypotheses (decided by kernel evaluation with the regenerated regexes) -/
theorem C03_static_hyp_example :
    staticHyp true (lit "<div class=\"a\" id='b' c=d>x &amp; y<!-- c -->\r\n<br />z</div>") = true := by
  decide +kernel

end ChamVerif
