import ChamProofs.Fuel
/-! # C01 — the interpreter renders an element's node as the statement semantics prescribes

`Spec.specFull` (in `ChamVerif/Spec.lean`) is the reference: on-error, `i18n:name`, slot, definitions, the guards,
repetition, the switch value, the i18n settings, replacement, tag omission with the attributes, content.
`C01_element_semantics_full`: for every element, the node the program builder assembles from the element's parsed
statements (`elementPost`), evaluated by the interpreter with whatever fuel, gives the verdict — output, scope, logs,
exception — that `specFull` gives.  The proof goes one layer of the node tree at a time (`refF_*`: the layer's node refines
the spec combinator when its sub-nodes refine their continuations), then `wrappers_shape_full` says which layers the
builder stacks.  `C01_element_semantics` is the same on the TAL fragment (`specElement`). -/
namespace ChamVerif
open ChamVerif.Fuel ChamVerif.Spec

/-- `k` is what the fuel-indexed computation `m` computes, whenever it has fuel enough to compute anything -/
def RefF (F : Nat) (m : Nat → RM Unit) (k : RM Unit) : Prop := ∀ G, G ≤ F → Le (m G) k

theorem refF_mono {F F' : Nat} {m : Nat → RM Unit} {k : RM Unit} (h : RefF F m k) (hF : F' ≤ F) : RefF F' m k :=
  fun G hG => h G (Nat.le_trans hG hF)

theorem refF_eval (cfg : ECfg) (al : List (Str × Val)) (F : Nat) (n : Node) :
    RefF F (fun G => eval cfg al G n) (eval cfg al F n) :=
  fun G hG => eval_fuel_le cfg al n G F hG

theorem refF_evalList (cfg : ECfg) (al : List (Str × Val)) (F : Nat) (ns : List Node) :
    RefF F (fun G => evalList cfg al G ns) (evalList cfg al F ns) :=
  fun G hG => evalList_fuel_le cfg al ns G F hG

section layers
variable (cfg : ECfg)

/-- with no fuel `eval` answers `unsupported`, which refines anything: a layer is about `eval … (G + 1)` -/
theorem refF_node (al : List (Str × Val)) (F : Nat) (n : Node) (k : RM Unit)
    (h : ∀ G, G < F → Le (eval cfg al (G + 1) n) k) : RefF F (fun G => eval cfg al G n) k
  | 0, _ => by simp only [eval]; exact le_unsupported _ _
  | G + 1, hG => h G hG

theorem refF_seq (al : List (Str × Val)) (F : Nat) (ns : List Node) (k : RM Unit)
    (h : RefF F (fun G => evalList cfg al G ns) k) : RefF F (fun G => eval cfg al G (.seq ns)) k := by
  refine refF_node cfg _ F _ _ fun G hG => ?_
  simp only [eval]; exact h G (by omega)

theorem refF_content (al : List (Str × Val)) (F : Nat) (e : EN) (esc tr : Bool) :
    RefF F (fun G => eval cfg al G (.content e esc tr)) (emitValue cfg al e esc tr) := by
  refine refF_node cfg _ F _ _ fun G hG => ?_
  simp only [eval, emitValue]; exact le_refl _

theorem refF_cache_one (al : List (Str × Val)) (F : Nat) (id : Nat) (e : EN) (n : Node) (k : RM Unit)
    (h : RefF F (fun G => eval cfg al G n) k) :
    RefF F (fun G => eval cfg al G (.cache [(id, e)] n)) (do let v ← enVal cfg al e; setCache id v; k) := by
  refine refF_node cfg _ F _ _ fun G hG => ?_
  simp only [eval, forM_one, setCache, bind_assoc]
  have := h G (by omega)
  le

theorem refF_cancel_one (al : List (Str × Val)) (F : Nat) (id : Nat) (n : Node) (k : RM Unit)
    (h : RefF F (fun G => eval cfg al G n) k) :
    RefF F (fun G => eval cfg al G (.cancel [id] n)) (do setCache id (Val.excClass "<CANCEL>"); k) := by
  refine refF_node cfg _ F _ _ fun G hG => ?_
  simp only [eval, forM_one, setCache]
  have := h G (by omega)
  le

theorem refF_condition (al : List (Str × Val)) (F : Nat) (c : CondE) (n : Node) (o : Option Node) (k ko : RM Unit)
    (h : RefF F (fun G => eval cfg al G n) k)
    (ho : match o with | some on => RefF F (fun G => eval cfg al G on) ko | none => ko = pure ()) :
    RefF F (fun G => eval cfg al G (.condition c n o))
      (do let v ← liftX (fun env => evalCond cfg al env 16 c); let b ← vTruthy cfg v; if b then k else ko) := by
  refine refF_node cfg _ F _ _ fun G hG => ?_
  simp only [eval]
  have := h G (by omega)
  cases o with
  | none => subst ho; le
  | some on => have := ho G (by omega); le

theorem refF_element (al : List (Str × Val)) (F : Nat) (st ct : Node) (en : Option Node) (kst kct ken : RM Unit)
    (hst : RefF F (fun G => eval cfg al G st) kst) (hct : RefF F (fun G => eval cfg al G ct) kct)
    (hen : match en with | some e => RefF F (fun G => eval cfg al G e) ken | none => ken = pure ()) :
    RefF F (fun G => eval cfg al G (.element st en ct)) (do kst; kct; ken) := by
  refine refF_node cfg _ F _ _ fun G hG => ?_
  simp only [eval]
  have := hst G (by omega)
  have := hct G (by omega)
  cases en with
  | none => subst hen; le
  | some e => have := hen G (by omega); le

/-- `define [alias name e] n`: the alias is in force while `n` renders -/
theorem refF_define_alias (al : List (Str × Val)) (F : Nat) (name : Str) (e : EN) (n : Node) (k : Val → RM Unit)
    (h : ∀ v, RefF F (fun G => eval cfg ((name, v) :: al) G n) (k v)) :
    RefF F (fun G => eval cfg al G (.define [.alias name e] n)) (do let v ← enVal cfg al e; k v) := by
  intro G hG
  -- one unit of fuel each for `eval`, the alias clause and the empty clause list; with `G + 3` the body runs with `G`
  match G with
  | 0 => simp only [eval]; exact le_unsupported _ _
  | 1 => simp only [eval, evalDefine]; exact le_unsupported _ _
  | 2 =>
    simp only [eval, evalDefine]
    exact le_bind_right (fun v => le_unsupported _ _)
  | G + 3 =>
    simp only [eval, evalDefine, restore_nil, rm_bind_pure_unit]
    exact le_bind_right (fun v => h v G (by omega))

/-- `_make_content_node` with a default: `insertOr` -/
theorem refF_insertOr (al : List (Str × Val)) (F : Nat) (st : Nat × Tok × Bool × Bool) (d : Node)
    (orig : List (Str × Val) → RM Unit)
    (h : ∀ al', RefF F (fun G => eval cfg al' G d) (orig al')) :
    RefF F (fun G => eval cfg al G (makeContentNode st.1 st.2.1 (some d) st.2.2.1 st.2.2.2)) (insertOr cfg al st orig) := by
  unfold makeContentNode insertOr
  have key := refF_define_alias cfg al F (lit "default") .marker
    (.cache [(st.1, .value st.2.1)]
      (.condition (.e (.binop (.ref st.1) .is_ .marker)) d (some (.content (.ref st.1) (!st.2.2.1) st.2.2.2))))
    (fun v => do
      let x ← enVal cfg ((lit "default", v) :: al) (.value st.2.1)
      setCache st.1 x
      let isDefault ← liftX (fun env => evalCond cfg ((lit "default", v) :: al) env 16 (.e (.binop (.ref st.1) .is_ .marker)))
      let b ← vTruthy cfg isDefault
      if b then orig ((lit "default", v) :: al) else emitValue cfg ((lit "default", v) :: al) (.ref st.1) (!st.2.2.1) st.2.2.2)
    (fun v => refF_cache_one cfg _ F _ _ _ _
      (refF_condition cfg _ F _ _ _ _ _ (h _) (refF_content cfg _ F _ _ _)))
  rw [enVal_marker_eq, pure_bind] at key
  exact key

theorem refF_contentOf (al : List (Str × Val)) (F : Nat) (ip : InnerSpec) (ht : ip.translate = none) (b : Node)
    (bodyK : List (Str × Val) → RM Unit) (h : ∀ al', RefF F (fun G => eval cfg al' G b) (bodyK al')) :
    RefF F (fun G => eval cfg al G (ip.contentNode b)) (contentOf cfg ip bodyK al) := by
  unfold InnerSpec.contentNode contentOf
  rw [ht]
  cases hc : ip.content with
  | none => exact h al
  | some c =>
    obtain ⟨id, expr, st, tr⟩ := c
    exact refF_insertOr cfg al F (id, expr, st, tr) b bodyK h

def optSwitch (sw : Option (Nat × Tok)) (n : Node) : Node :=
  match sw with | none => n | some (sid, cl) => .cache [(sid, .value cl)] n
def optRepeat (rp : Option (Nat × DefineSpec × Str)) (n : Node) : Node :=
  match rp with | none => n | some (rid, d, ws) => .repeat_ rid d.names (.value d.expr) (d.ctx == .local_) ws n
def optCond (c : Option Tok) (n : Node) : Node :=
  match c with | none => n | some cl => .condition (.e (.value cl)) n none
def optCase (cs : Option (Nat × Tok)) (n : Node) : Node :=
  match cs with | none => n | some (sw, cl) => caseNode sw cl n

theorem refF_switchOf (al : List (Str × Val)) (F : Nat) (sw : Option (Nat × Tok)) (n : Node) (k : RM Unit)
    (h : RefF F (fun G => eval cfg al G n) k) :
    RefF F (fun G => eval cfg al G (optSwitch sw n)) (switchOf cfg al sw k) := by
  unfold optSwitch switchOf
  cases sw with
  | none => exact h
  | some x => obtain ⟨sid, cl⟩ := x; exact refF_cache_one cfg al F sid (.value cl) n k h

theorem refF_conditionOf (al : List (Str × Val)) (F : Nat) (c : Option Tok) (n : Node) (k : RM Unit)
    (h : RefF F (fun G => eval cfg al G n) k) :
    RefF F (fun G => eval cfg al G (optCond c n)) (conditionOf cfg al c k) := by
  unfold optCond conditionOf
  cases c with
  | none => exact h
  | some cl => exact refF_condition cfg al F _ n none k (pure ()) h rfl

theorem refF_caseOf (al : List (Str × Val)) (F : Nat) (cs : Option (Nat × Tok)) (n : Node) (k : List (Str × Val) → RM Unit)
    (h : ∀ al', RefF F (fun G => eval cfg al' G n) (k al')) :
    RefF F (fun G => eval cfg al G (optCase cs n)) (caseOf cfg al cs k) := by
  unfold optCase caseOf
  cases cs with
  | none => exact h al
  | some x =>
    obtain ⟨sw, cl⟩ := x
    unfold caseNode
    have key := refF_define_alias cfg al F (lit "default") .marker
      (.condition (caseCond sw cl) (.cancel [sw] n) none)
      (fun v => do
        let c ← liftX (fun env => evalCond cfg ((lit "default", v) :: al) env 16 (caseCond sw cl))
        let b ← vTruthy cfg c
        if b then (do setCache sw (Val.excClass "<CANCEL>"); k ((lit "default", v) :: al)) else pure ())
      (fun v => refF_condition cfg _ F _ _ none _ (pure ()) (refF_cancel_one cfg _ F sw n _ (h _)) rfl)
    rw [enVal_marker_eq, pure_bind] at key
    exact key

theorem refF_loop (al : List (Str × Val)) (F : Nat) (key : Str) (names : List Tok) (loc : Bool) (ws : Str) (n : Node)
    (k : RM Unit) (h : RefF F (fun G => eval cfg al G n) k) :
    ∀ (items : List Val) (rem : Nat),
      RefF F (fun G => evalRepeat cfg al G key names loc ws n items rem) (loopOf key names loc ws k items rem) := by
  intro items
  induction items with
  | nil =>
    intro rem G hG
    cases G with
    | zero => simp only [evalRepeat]; exact le_unsupported _ _
    | succ G => simp only [evalRepeat, loopOf]; exact le_refl _
  | cons item rest ih =>
    intro rem G hG
    cases G with
    | zero => simp only [evalRepeat]; exact le_unsupported _ _
    | succ G =>
      show Le (evalRepeat cfg al (G + 1) key names loc ws n (item :: rest) rem) _
      rw [evalRepeat_cons, loopOf_cons]
      exact iteration_mono _ _ _ _ _ _ (h G (by omega)) (ih (rem - 1) G (by omega))

theorem refF_repeatOf (al : List (Str × Val)) (F : Nat) (rp : Option (Nat × DefineSpec × Str)) (n : Node) (k : RM Unit)
    (h : RefF F (fun G => eval cfg al G n) k) :
    RefF F (fun G => eval cfg al G (optRepeat rp n)) (repeatOf cfg al rp k) := by
  unfold optRepeat
  cases rp with
  | none => exact h
  | some x =>
    obtain ⟨rid, d, ws⟩ := x
    refine refF_node cfg _ F _ _ fun G hG => ?_
    show Le (eval cfg al (G + 1) (.repeat_ rid d.names (.value d.expr) (d.ctx == .local_) ws n)) _
    rw [eval_repeat, repeatOf_some]
    exact repetition_mono _ _ _ _ _ (fun tag items => refF_loop cfg al F tag _ _ ws n k h items _ G (by omega))

theorem refF_definesOf (F : Nat) (n : Node) (k : List (Str × Val) → RM Unit)
    (h : ∀ al', RefF F (fun G => eval cfg al' G n) (k al')) :
    ∀ (assigns : List Assign) (al : List (Str × Val)) (bk : List (Str × Option Val)),
      RefF F (fun G => evalDefine cfg al G assigns n bk) (definesOf cfg assigns al bk k) := by
  intro assigns
  induction assigns with
  | nil =>
    intro al bk G hG
    cases G with
    | zero => simp only [evalDefine]; exact le_unsupported _ _
    | succ G =>
      simp only [evalDefine, definesOf]
      exact le_bind (h al G (by omega)) (fun _ => le_refl _)
  | cons a rest ih =>
    intro al bk G hG
    cases G with
    | zero => simp only [evalDefine]; exact le_unsupported _ _
    | succ G =>
      cases a with
      | alias name e =>
        simp only [evalDefine, definesOf]
        exact le_bind_right (fun v => ih _ _ G (by omega))
      | assign names e loc =>
        show Le (evalDefine cfg al (G + 1) (.assign names e loc :: rest) n bk) _
        rw [evalDefine_assign, definesOf_assign]
        exact assignment_mono _ _ _ _ _ (fun bk' => ih al _ G (by omega))

theorem refF_define (al : List (Str × Val)) (F : Nat) (assigns : List Assign) (n : Node) (k : List (Str × Val) → RM Unit)
    (h : ∀ al', RefF F (fun G => eval cfg al' G n) (k al')) :
    RefF F (fun G => eval cfg al G (.define assigns n)) (definesOf cfg assigns al [] k) := by
  refine refF_node cfg _ F _ _ fun G hG => ?_
  simp only [eval]; exact refF_definesOf cfg F n k h assigns al [] G (by omega)

def optDomain (d : Option Tok) (n : Node) : Node := match d with | none => n | some cl => .domain cl.str n
def optContext (c : Option Tok) (n : Node) : Node := match c with | none => n | some cl => .txContext cl.str n
def optTarget (t : Option Tok) (n : Node) : Node :=
  match t with
  | none => n
  | some cl => .define [.alias (lit "default") (.pyName (lit "target_language"))] (.target (.value cl) n)
def optSlot (ds : Option Tok) (n : Node) : Node := match ds with | none => n | some cl => .defineSlot cl n

theorem refF_domainOf (al : List (Str × Val)) (F : Nat) (d : Option Tok) (n : Node) (k : RM Unit)
    (h : RefF F (fun G => eval cfg al G n) k) : RefF F (fun G => eval cfg al G (optDomain d n)) (domainOf d k) := by
  unfold optDomain domainOf
  cases d with
  | none => exact h
  | some cl =>
    refine refF_node cfg _ F _ _ fun G hG => ?_
    simp only [eval]; have := h G (by omega); le

theorem refF_contextOf (al : List (Str × Val)) (F : Nat) (c : Option Tok) (n : Node) (k : RM Unit)
    (h : RefF F (fun G => eval cfg al G n) k) : RefF F (fun G => eval cfg al G (optContext c n)) (contextOf c k) := by
  unfold optContext contextOf
  cases c with
  | none => exact h
  | some cl =>
    refine refF_node cfg _ F _ _ fun G hG => ?_
    simp only [eval]; have := h G (by omega); le

theorem refF_target (al : List (Str × Val)) (F : Nat) (cl : Tok) (n : Node) (k : RM Unit)
    (h : RefF F (fun G => eval cfg al G n) k) :
    RefF F (fun G => eval cfg al G (.target (.value cl) n)) (do
      let s ← mGet
      let old := s.env.topFrame.targetLang
      let v ← enVal cfg al (.value cl)
      modFrame (fun fr => { fr with targetLang := v })
      setVar (lit "target_language") v
      k
      modFrame (fun fr => { fr with targetLang := old })
      setVar (lit "target_language") old) := by
  refine refF_node cfg _ F _ _ fun G hG => ?_
  simp only [eval]; have := h G (by omega); le

theorem refF_targetOf (al : List (Str × Val)) (F : Nat) (t : Option Tok) (n : Node) (k : List (Str × Val) → RM Unit)
    (h : ∀ al', RefF F (fun G => eval cfg al' G n) (k al')) :
    RefF F (fun G => eval cfg al G (optTarget t n)) (targetOf cfg al t k) := by
  unfold optTarget targetOf
  cases t with
  | none => exact h al
  | some cl =>
    exact refF_define_alias cfg al F (lit "default") (.pyName (lit "target_language")) _ _
      (fun v => refF_target cfg _ F cl n _ (h _))

theorem refF_slotOf (al : List (Str × Val)) (F : Nat) (ds : Option Tok) (n : Node) (k : RM Unit)
    (h : RefF F (fun G => eval cfg al G n) k) : RefF F (fun G => eval cfg al G (optSlot ds n)) (slotOf cfg F ds k) := by
  cases ds with
  | none => exact h
  | some nm =>
    exact refF_node cfg _ F _ _ fun G hG => by
      show Le (eval cfg al (G + 1) (.defineSlot nm n)) _
      rw [eval_defineSlot]
      exact slotOf_mono cfg (fun al' n' => eval_fuel_le cfg al' n' G F (by omega)) (some nm) (h G (by omega))

theorem refF_nameOf (al : List (Str × Val)) (F : Nat) (nm : Option Tok) (n : Node) (k : RM Unit)
    (h : RefF F (fun G => eval cfg al G n) k) :
    RefF F (fun G => eval cfg al G (match nm with | some cl => Node.name cl n | none => n)) (nameOf nm k) := by
  unfold nameOf
  cases nm with
  | none => exact h
  | some cl =>
    refine refF_node cfg _ F _ _ fun G hG => ?_
    simp only [eval]; have := h G (by omega); le

theorem refF_onErrorOf (al : List (Str × Val)) (F : Nat) (id : Nat) (fb n : Node) (kfb k : RM Unit)
    (hfb : RefF F (fun G => eval cfg al G fb) kfb) (h : RefF F (fun G => eval cfg al G n) k) :
    RefF F (fun G => eval cfg al G (.onError id fb n)) (onErrorOf cfg id kfb k) :=
  refF_node cfg _ F _ _ fun G hG => by
    rw [eval_onError]; exact onErrorOf_mono cfg id (hfb G (by omega)) (h G (by omega))

theorem refF_contentFullOf (al : List (Str × Val)) (F : Nat) (ip : InnerSpec) (body : List Node) :
    RefF F (fun G => eval cfg al G (ip.contentNode (.seq body)))
      (contentFullOf cfg F ip (.seq body) (fun al' => evalList cfg al' F body) al) := by
  unfold contentFullOf
  cases ht : ip.translate with
  | none =>
    exact refF_contentOf cfg al F ip ht (.seq body) _ (fun al' => refF_seq cfg al' F body _ (refF_evalList cfg al' F body))
  | some t => exact refF_eval cfg al F _

theorem refF_taggedFullOf (al : List (Str × Val)) (F : Nat) (ip : InnerSpec) (body : List Node) :
    RefF F (fun G => eval cfg al G (ip.tagged (.seq body)))
      (taggedFullOf cfg F ip (.seq body) (fun al' => evalList cfg al' F body) al) := by
  unfold InnerSpec.tagged taggedFullOf
  have hct := refF_contentFullOf cfg al F ip body
  by_cases ho : ip.omitAlways = true
  · simp only [ho, if_true]; exact hct
  · simp only [ho, Bool.false_eq_true, if_false]
    cases hoe : ip.omitExpr with
    | none =>
      simp only
      refine refF_element cfg al F _ _ _ _ _ _ (refF_eval cfg al F _) hct ?_
      cases ip.endTag with
      | none => rfl
      | some e => exact refF_eval cfg al F e
    | some oc =>
      obtain ⟨oid, cl⟩ := oc
      simp only
      have key := refF_cache_one cfg al F oid (.negate (.value cl)) _ _
        (refF_element cfg al F (.condition (.e (.ref oid)) ip.startTag none) (ip.contentNode (.seq body))
          (ip.endTag.map fun e => Node.condition (.e (.ref oid)) e none) _ _
          (match ip.endTag with
            | some e => do
              let v ← liftX (fun env => evalCond cfg al env 16 (.e (.ref oid)))
              let b ← vTruthy cfg v
              if b then eval cfg al F e else pure ()
            | none => pure ())
          (refF_condition cfg al F _ _ none _ (pure ()) (refF_eval cfg al F ip.startTag) rfl) hct
          (by cases ip.endTag with
            | none => rfl
            | some e => exact refF_condition cfg al F _ _ none _ (pure ()) (refF_eval cfg al F e) rfl))
      intro G hG
      have := key G hG
      simp only [bind_assoc] at this ⊢
      exact this

theorem refF_innerFullOf (al : List (Str × Val)) (F : Nat) (p : ElemStmts) (slots : List (Tok × Node)) (body : List Node) :
    RefF F (fun G => eval cfg al G (p.innerNode slots body))
      (innerFullOf cfg F p slots body (fun al' => evalList cfg al' F body) al) := by
  unfold ElemStmts.innerNode innerFullOf
  cases hk : p.kind with
  | macroUse tok ext =>
    have hn : p.innerNode slots body =
        Node.define [Assign.assign [{ str := lit "macroname", pos := 0 }] (EN.const (rsplitSlash tok.str)) true]
          (Node.useExternal (EN.value tok) slots ext) := by
      simp only [ElemStmts.innerNode, hk]
    simp only [hn]
    exact refF_eval cfg al F _
  | tal ip =>
    simp only [InnerSpec.node]
    cases hr : ip.replace with
    | none => exact refF_taggedFullOf cfg al F ip body
    | some r =>
      obtain ⟨id, expr, st, tr⟩ := r
      exact refF_insertOr cfg al F (id, expr, st, tr) (ip.tagged (.seq body)) _ (fun al' => refF_taggedFullOf cfg al' F ip body)

end layers

theorem applyWrappers_nil (ws : List (Wrapper × (Node → Node))) (inner : Node) : applyWrappers ws [] inner = inner := rfl

theorem applyWrappers_cons (ws : List (Wrapper × (Node → Node))) (w : Wrapper) (order : List Wrapper) (inner : Node) :
    applyWrappers ws (w :: order) inner =
      match ws.find? (·.1 == w) with
      | some (_, f) => f (applyWrappers ws order inner)
      | none => applyWrappers ws order inner := by
  simp only [applyWrappers, List.reverse_cons, List.foldl_append, List.foldl_cons, List.foldl_nil]
  rfl

/-- what an optional statement of kind `w` contributes to `ElemStmts.wrappers`: nothing, or one wrapper, acting as `g` -/
inductive Seg (w : Wrapper) : List (Wrapper × (Node → Node)) → (Node → Node) → Prop
  | absent : Seg w [] id
  | present (f : Node → Node) : Seg w [(w, f)] f

theorem Seg.find? {w s g} (h : Seg w s g) (w' : Wrapper) :
    s.find? (·.1 == w') = if w = w' then s.head? else none := by
  cases h with
  | absent => simp
  | present f => by_cases hw : w = w' <;> simp [hw]

theorem Seg.head {w s g} (h : Seg w s g) (n : Node) :
    (match s.head? with | some (_, f) => f n | none => n) = g n := by
  cases h <;> rfl

/-- wrappers collected statement by statement (in the order of `ElemStmts.wrappers`) nest in `wrapOrder`: every lookup by
kind finds the one segment of that kind -/
theorem applyWrappers_nest {fd gSlot gCase gCond gRep gSw gDom gCtx gTgt : Node → Node}
    {sSlot sCase sCond sRep sSw sDom sCtx sTgt : List (Wrapper × (Node → Node))}
    (hSlot : Seg .defineSlot sSlot gSlot) (hCase : Seg .case_ sCase gCase) (hCond : Seg .condition sCond gCond)
    (hRep : Seg .repeat_ sRep gRep) (hSw : Seg .switch sSw gSw) (hDom : Seg .domain sDom gDom)
    (hCtx : Seg .context sCtx gCtx) (hTgt : Seg .target sTgt gTgt) (inner : Node) :
    applyWrappers ([(Wrapper.define, fd)] ++ sSlot ++ sCase ++ sCond ++ sRep ++ sSw ++ sDom ++ sCtx ++ sTgt) wrapOrder inner =
      gSlot (fd (gCase (gCond (gRep (gSw (gDom (gCtx (gTgt inner)))))))) := by
  have hDef : Seg .define [(.define, fd)] fd := .present fd
  simp only [wrapOrder, applyWrappers_cons, applyWrappers_nil, List.find?_append, hDef.find?, hSlot.find?, hCase.find?,
    hCond.find?, hRep.find?, hSw.find?, hDom.find?, hCtx.find?, hTgt.find?, reduceCtorEq, if_false, if_true,
    Option.or_none, Option.none_or, hDef.head, hSlot.head, hCase.head, hCond.head, hRep.head, hSw.head, hDom.head,
    hCtx.head, hTgt.head]

/-- the nesting of all statement wrappers: `metal:define-slot` ▸ definitions ▸ `tal:case` ▸ `tal:condition` ▸ `tal:repeat` ▸
`tal:switch` ▸ `i18n:domain` ▸ `i18n:context` ▸ `i18n:target` (the order `wrapOrder`, observed on the real builder:
`C01_wrapOrder_observed`) -/
theorem wrappers_shape_full (p : ElemStmts) (inner : Node) :
    applyWrappers p.wrappers wrapOrder inner =
      optSlot p.defineSlot (.define p.assigns (optCase p.case_ (optCond p.condition (optRepeat p.repeat_ (optSwitch p.switch
        (optDomain p.domain (optContext p.context (optTarget p.target inner)))))))) :=
  applyWrappers_nest (by cases p.defineSlot; exact .absent; exact .present _)
    (by rcases p.case_ with _ | ⟨sw, cl⟩; exact .absent; exact .present _)
    (by cases p.condition; exact .absent; exact .present _)
    (by rcases p.repeat_ with _ | ⟨rid, d, ws⟩; exact .absent; exact .present _)
    (by rcases p.switch with _ | ⟨sid, cl⟩; exact .absent; exact .present _)
    (by cases p.domain; exact .absent; exact .present _)
    (by cases p.context; exact .absent; exact .present _)
    (by cases p.target; exact .absent; exact .present _) inner

/-- the nesting of the statement nodes of an element of the fragment: definitions outermost, then `tal:case`,
`tal:condition`, `tal:repeat`, `tal:switch` -/
theorem wrappers_shape (p : ElemStmts) (ip : InnerSpec) (h : talOnly p ip) (inner : Node) :
    applyWrappers p.wrappers wrapOrder inner =
      .define p.assigns (optCase p.case_ (optCond p.condition (optRepeat p.repeat_ (optSwitch p.switch inner)))) := by
  obtain ⟨_, _, hds, hdo, hcx, htg, _, _, _, _⟩ := h
  rw [wrappers_shape_full, hds, hdo, hcx, htg]
  rfl

/-- `elementPost` always succeeds; its node is `fullNode` of the parsed statements, the slot fillers the children
registered (for a macro use) and the children's nodes -/
theorem elementPost_shape (p : ElemStmts) (body : List Node) (st : BState) :
    ∃ st' oid, elementPost p body st = .ok (p.fullNode oid (st.useMacro.headD []) body, st') := by
  unfold elementPost
  simp only [bind, bModify, bGet, pure]
  by_cases hu : p.useMacroNonEmpty = true <;> simp only [hu, if_true, Bool.false_eq_true, if_false] <;>
    rcases hf : p.fillSlot with _ | cl <;> simp only [] <;>
    rcases hm : p.defineMacro with _ | cm <;> simp only [] <;>
    rcases ho : p.onError with _ | oe <;> simp only [freshId] <;>
    exact ⟨_, _, rfl⟩

/-- for an element of the fragment the node is the statement wrappers around `InnerSpec.node` of the children's nodes -/
theorem elementPost_tal (p : ElemStmts) (ip : InnerSpec) (h : talOnly p ip) (body : List Node) (st : BState) :
    ∃ st', elementPost p body st = .ok (applyWrappers p.wrappers wrapOrder (ip.node (.seq body)), st') := by
  obtain ⟨st', oid, hs⟩ := elementPost_shape p body st
  obtain ⟨hk, _, _, _, _, _, hn, hf, hm, ho⟩ := h
  refine ⟨st', ?_⟩
  rw [hs]
  simp only [ElemStmts.fullNode, ElemStmts.slotNode, ElemStmts.innerNode, hk, hn, hm, ho]

/-- **C01 (every element renders as the statement semantics prescribes)**: for *every* element — any combination of TAL,
METAL and i18n statements and `tal:on-error` — every list of child nodes, builder state, alias list, scope, state and fuel:
whenever the interpreter reaches a verdict on the node `elementPost` builds, `specFull` reaches the same verdict.  So the
statements act in one fixed order: `tal:on-error` ▸ `i18n:name` ▸ (in-place use of a defined macro |) `metal:define-slot` ▸
definitions ▸ `tal:case` ▸ `tal:condition` ▸ `tal:repeat` ▸ `tal:switch` ▸ `i18n:domain` ▸ `i18n:context` ▸ `i18n:target` ▸
`tal:replace` ▸ tags (`tal:omit-tag`, attributes) ▸ `tal:content` ▸ children. -/
theorem C01_element_semantics_full (cfg : ECfg) (p : ElemStmts) (body : List Node) (st st' : BState) (node : Node)
    (hb : elementPost p body st = .ok (node, st')) :
    ∃ oid, ∀ (al : List (Str × Val)) (F G : Nat), G ≤ F →
      Le (eval cfg al G node) (specFull cfg F p oid (st.useMacro.headD []) body al) := by
  obtain ⟨st1, oid, hp⟩ := elementPost_shape p body st
  rw [hp] at hb
  have hnode : node = p.fullNode oid (st.useMacro.headD []) body := by
    injection hb with hb; injection hb with h1 _; exact h1.symm
  subst hnode
  refine ⟨oid, fun al F G hG => ?_⟩
  have hslot : RefF F (fun G => eval cfg al G (p.slotNode (st.useMacro.headD []) body))
      (slotOf cfg F p.defineSlot (definesOf cfg p.assigns al [] fun al1 =>
        caseOf cfg al1 p.case_ fun al2 => conditionOf cfg al2 p.condition <| repeatOf cfg al2 p.repeat_ <|
        switchOf cfg al2 p.switch <| domainOf p.domain <| contextOf p.context <| targetOf cfg al2 p.target fun al3 =>
        innerFullOf cfg F p (st.useMacro.headD []) body (fun al' => evalList cfg al' F body) al3)) := by
    unfold ElemStmts.slotNode
    rw [wrappers_shape_full]
    exact refF_slotOf cfg al F p.defineSlot _ _ (refF_define cfg al F p.assigns _ _ (fun al1 =>
      refF_caseOf cfg al1 F p.case_ _ _ (fun al2 =>
        refF_conditionOf cfg al2 F p.condition _ _ (refF_repeatOf cfg al2 F p.repeat_ _ _ (refF_switchOf cfg al2 F p.switch _ _
          (refF_domainOf cfg al2 F p.domain _ _ (refF_contextOf cfg al2 F p.context _ _ (refF_targetOf cfg al2 F p.target _ _
            (fun al3 => refF_innerFullOf cfg al3 F p (st.useMacro.headD []) body)))))))))
  have hmacro : RefF F (fun G => eval cfg al G (match p.defineMacro with
        | some cl => Node.useInternal (some cl.str) | none => p.slotNode (st.useMacro.headD []) body))
      (macroOf cfg F al p.defineMacro (slotOf cfg F p.defineSlot (definesOf cfg p.assigns al [] fun al1 =>
        caseOf cfg al1 p.case_ fun al2 => conditionOf cfg al2 p.condition <| repeatOf cfg al2 p.repeat_ <|
        switchOf cfg al2 p.switch <| domainOf p.domain <| contextOf p.context <| targetOf cfg al2 p.target fun al3 =>
        innerFullOf cfg F p (st.useMacro.headD []) body (fun al' => evalList cfg al' F body) al3))) := by
    unfold macroOf
    cases p.defineMacro with
    | none => exact hslot
    | some cl => exact refF_eval cfg al F _
  have hname := refF_nameOf cfg al F p.name _ _ hmacro
  unfold ElemStmts.fullNode specFull
  cases ho : p.onError with
  | none => exact hname G hG
  | some oe =>
    obtain ⟨stt, expr⟩ := oe
    exact refF_onErrorOf cfg al F oid _ _ _ _ (refF_eval cfg al F _) hname G hG

theorem specFull_talOnly (cfg : ECfg) (F : Nat) (p : ElemStmts) (ip : InnerSpec) (h : talOnly p ip) (oid : Nat)
    (slots : List (Tok × Node)) (body : List Node) (al : List (Str × Val)) :
    specFull cfg F p oid slots body al = specElement cfg F p ip (fun al' => evalList cfg al' F body) al := by
  obtain ⟨hk, ht, hds, hdo, hcx, htg, hn, _, hm, ho⟩ := h
  have htag : ∀ k, taggedFullOf cfg F ip (.seq body) k = taggedOf cfg F ip k := by
    intro k; funext al'
    simp only [taggedFullOf, taggedOf, contentFullOf, ht]
  simp only [specFull, specElement, hn, hm, hds, hdo, hcx, htg, ho, nameOf, macroOf, slotOf, domainOf, contextOf, targetOf,
    innerFullOf, innerOf, hk, htag]

/-- **C01 (an element renders as the statement semantics prescribes)**: for every element of the TAL fragment
(`tal:define`, `tal:case`, `tal:condition`, `tal:repeat`, `tal:switch`, `tal:content` | `tal:replace`, `tal:omit-tag`,
`tal:attributes`; no METAL, i18n or `tal:on-error` on the element itself — its children are arbitrary), every list of
child nodes, alias list, scope and state: whenever the interpreter reaches a verdict on the node the builder assembles
(`elementPost`), with whatever fuel `G`, `specElement` reaches the same verdict — the same output, scope, logs, or the
same exception — the children rendered by `evalList`.  So: definitions first, then the guards, then repetition, then
replacement, tag omission with the attributes, and content. -/
theorem C01_element_semantics (cfg : ECfg) (p : ElemStmts) (ip : InnerSpec) (h : talOnly p ip) (body : List Node)
    (st st' : BState) (node : Node) (hb : elementPost p body st = .ok (node, st'))
    (al : List (Str × Val)) (F G : Nat) (hG : G ≤ F) :
    Le (eval cfg al G node) (specElement cfg F p ip (fun al' => evalList cfg al' F body) al) := by
  obtain ⟨oid, hfull⟩ := C01_element_semantics_full cfg p body st st' node hb
  rw [← specFull_talOnly cfg F p ip h oid (st.useMacro.headD []) body al]
  exact hfull al F G hG

/-- … in plain words, for normal completion: the state the interpreter ends in is the state the semantics prescribes -/
theorem C01_element_ok (cfg : ECfg) (p : ElemStmts) (ip : InnerSpec) (h : talOnly p ip) (body : List Node)
    (st st' : BState) (node : Node) (hb : elementPost p body st = .ok (node, st'))
    (al : List (Str × Val)) (F G : Nat) (hG : G ≤ F) (s s' : RState) (he : eval cfg al G node s = .ok () s') :
    specElement cfg F p ip (fun al' => evalList cfg al' F body) al s = .ok () s' :=
  (C01_element_semantics cfg p ip h body st st' node hb al F G hG).ok he

/-- … and for an exception -/
theorem C01_element_raised (cfg : ECfg) (p : ElemStmts) (ip : InnerSpec) (h : talOnly p ip) (body : List Node)
    (st st' : BState) (node : Node) (hb : elementPost p body st = .ok (node, st'))
    (al : List (Str × Val)) (F G : Nat) (hG : G ≤ F) (s s' : RState) (ex : Exc) (he : eval cfg al G node s = .raised ex s') :
    specElement cfg F p ip (fun al' => evalList cfg al' F body) al s = .raised ex s' :=
  (C01_element_semantics cfg p ip h body st st' node hb al F G hG).raised he

/-- the hypotheses are met: an element with `tal:condition`, `tal:repeat`, `tal:content` and `tal:omit-tag` -/
example : ∃ (p : ElemStmts) (ip : InnerSpec), talOnly p ip ∧ p.condition.isSome ∧ p.repeat_.isSome ∧ ip.content.isSome ∧
    ip.omitExpr.isSome :=
  let t : Tok := { str := lit "x", pos := 0 }
  let d : DefineSpec := { ctx := DefCtx.local_, names := [t], expr := t }
  let ip : InnerSpec := { content := some (1, t, false, false), translate := none, startTag := .text (lit "<p>"),
                          endTag := some (.text (lit "</p>")), omitAlways := false, omitExpr := some (2, t), replace := none }
  let p : ElemStmts := { (default : ElemStmts) with kind := InnerKind.tal ip, repeat_ := some (3, d, []), condition := some t }
  ⟨p, ip, ⟨rfl, rfl, rfl, rfl, rfl, rfl, rfl, rfl, rfl, rfl⟩, rfl, rfl, rfl, rfl⟩

end ChamVerif
