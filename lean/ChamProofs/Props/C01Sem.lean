import ChamVerif.Build
import ChamProofs.RunLemmas
/-! # C01 — `default` keeps the original markup, `None` removes it

`tal:content` / `tal:replace` are built by `_make_content_node`; these theorems evaluate that node shape in the
interpreter model for an arbitrary expression, default content, scope and state. -/
namespace ChamVerif

/-- the state after `__cache_<id> = value`: the activation's cache holds the value -/
def cacheSet (id : Nat) (v : Val) (s : RState) : RState :=
  { s with env := match s.env.frames with
    | fr :: rest => { s.env with frames := { fr with cache := (id, v) :: fr.cache.filter (·.1 != id) } :: rest }
    | [] => { s.env with frames := [{ ({} : Frame) with cache := (id, v) :: ({} : Frame).cache.filter (·.1 != id) }] } }

theorem setCache_run (id : Nat) (v : Val) (s : RState) : Spec.setCache id v s = .ok () (cacheSet id v s) := by
  unfold Spec.setCache modFrame modEnv mModify cacheSet
  cases h : s.env.frames <;> simp [h]

theorem getCached_cacheSet (id : Nat) (v : Val) (s : RState) (x : XState) :
    getCached (cacheSet id v s).env id x = .ok v x := by
  unfold getCached cacheSet Env.topFrame
  cases h : s.env.frames <;> simp [pure]

theorem enVal_ref (cfg : ECfg) (al : List (Str × Val)) (id : Nat) (v : Val) (s : RState) :
    enVal cfg al (.ref id) (cacheSet id v s) = .ok v (cacheSet id v s) := by
  simp only [enVal, liftX, evalEN, getCached_cacheSet]

theorem cond_is_marker (cfg : ECfg) (al : List (Str × Val)) (id : Nat) (v : Val) (s : RState) (b : Bool)
    (hb : Val.pyIs v .dflt = .ok b) :
    liftX (fun env => evalCond cfg al env 16 (CondE.e ((EN.ref id).binop NOp.is_ EN.marker))) (cacheSet id v s) =
      .ok (.bool b) (cacheSet id v s) := by
  -- `is` on an exception class is answered by its own arm of the `match` on the operands, like `pyIs`: `False`
  by_cases hv : ∃ c, v = .excClass c
  · obtain ⟨c, rfl⟩ := hv
    cases (R.ok.inj hb : false = b)
    simp only [liftX, evalCond, evalEN, bind, getCached_cacheSet, pure]
  · have hv : ∀ c, v ≠ .excClass c := fun c hc => hv ⟨c, hc⟩
    simp only [liftX, evalCond, evalEN, bind, getCached_cacheSet, pure, xLiftR, hb]

/-- The node `_make_content_node` builds evaluates the expression once, keeps the value in the cache, and then renders the
original content when the value is the `default` marker, and inserts the cached value when it is anything else.
(`f + 5`: one unit of fuel each for the define node, its alias clause, the end of the clause list, the cache node and
the condition node; the original content or the insertion then runs with `f`.) -/
theorem eval_makeContentNode (cfg : ECfg) (al : List (Str × Val)) (f id : Nat) (expr : Tok) (d : Node) (st tr : Bool)
    (s s1 : RState) (v : Val) (b : Bool)
    (hv : enVal cfg ((lit "default", Val.dflt) :: al) (.value expr) s = .ok v s1)
    (hb : Val.pyIs v .dflt = .ok b) :
    eval cfg al (f + 5) (makeContentNode id expr (some d) st tr) s =
      eval cfg ((lit "default", Val.dflt) :: al) f (if b then d else .content (.ref id) (!st) tr) (cacheSet id v s1) := by
  have hcache : ([(id, EN.value expr)].forM fun p => enVal cfg ((lit "default", Val.dflt) :: al) p.2 >>= Spec.setCache p.1) s =
      .ok () (cacheSet id v s1) := by
    rw [forM_one, RM.bind_ok hv, setCache_run]
  have htrue : vTruthy cfg (.bool b) (cacheSet id v s1) = .ok b (cacheSet id v s1) := rfl
  rw [makeContentNode, eval_define, evalDefine_alias, enVal_marker_eq, pure_bind, evalDefine_nil, restore_nil,
    rm_bind_pure_unit, eval_cache, RM.bind_ok hcache, eval_condition, RM.bind_ok (cond_is_marker cfg _ id v s1 b hb), RM.bind_ok htrue]
  cases b <;> rfl

/-- **C01 (`default` keeps the original markup)**: if the expression of `tal:content` / `tal:replace` evaluates to the
`default` marker, the element renders exactly its original content (`d`), evaluated once, in the state after the
expression was evaluated. -/
theorem C01_default_keeps (cfg : ECfg) (al : List (Str × Val)) (f id : Nat) (expr : Tok) (d : Node) (st tr : Bool)
    (s s1 : RState)
    (hv : enVal cfg ((lit "default", Val.dflt) :: al) (.value expr) s = .ok .dflt s1) :
    eval cfg al (f + 5) (makeContentNode id expr (some d) st tr) s =
      eval cfg ((lit "default", Val.dflt) :: al) f d (cacheSet id .dflt s1) :=
  eval_makeContentNode cfg al f id expr d st tr s s1 .dflt true hv rfl

/-- **C01 (any other value replaces the content)**: if the expression evaluates to a value `v` that is not the `default`
marker, the original content is *not* evaluated and what is emitted is the escaped (or, with `structure`, the converted)
string form of `v` — nothing at all when that form is `None`.  (`f + 6`: the five nodes above the insertion, and the
content node itself.) -/
theorem C01_content_value (cfg : ECfg) (al : List (Str × Val)) (f id : Nat) (expr : Tok) (d : Node) (st : Bool)
    (s s1 : RState) (v : Val) (q : QIn)
    (hv : enVal cfg ((lit "default", Val.dflt) :: al) (.value expr) s = .ok v s1)
    (hnd : Val.pyIs v .dflt = .ok false) (hne : ∀ c, v ≠ .excClass c) (hq : toQIn cfg v = .ok q) :
    eval cfg al (f + 6) (makeContentNode id expr (some d) st false) s =
      (liftX (fun env => offerCall cfg env v) >>= fun _ =>
        match (if !st then quoteVal Site.content.q Site.content.qe none q else convertVal q) with
        | some t => emit t
        | none => pure ()) (cacheSet id v s1) := by
  rw [eval_makeContentNode cfg al (f + 1) id expr d st false s s1 v false hv hnd]
  show Spec.emitValue cfg _ (.ref id) (!st) false (cacheSet id v s1) = _
  rw [Spec.emitValue, RM.bind_ok (enVal_ref cfg _ id v s1)]
  simp only [Bool.false_eq_true, if_false, pure, bind, mLiftR, hq]
  rfl

/-- **C01 (`None` removes)**: if the expression evaluates to `None` (`nothing`), nothing is emitted: the output stack is
what it was after evaluating the expression, and the original content is not evaluated -/
theorem C01_none_removes (cfg : ECfg) (al : List (Str × Val)) (f id : Nat) (expr : Tok) (d : Node) (st : Bool)
    (s s1 : RState)
    (hv : enVal cfg ((lit "default", Val.dflt) :: al) (.value expr) s = .ok .none s1) :
    eval cfg al (f + 6) (makeContentNode id expr (some d) st false) s = .ok () (cacheSet id .none s1) ∧
    (cacheSet id .none s1).streams = s1.streams := by
  refine ⟨?_, rfl⟩
  rw [C01_content_value cfg al f id expr d st s s1 .none .none hv rfl (by intro c h; cases h) rfl]
  cases st <;> rfl

end ChamVerif
