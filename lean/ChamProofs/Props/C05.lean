import ChamVerif.Scope
/-! # C05 — variable scoping: the `Scope` dictionary and the backup/restore bracket

`Dict` and `ScopeStore` (`ChamVerif/Scope.lean`) model the class `chameleon.utils.Scope` on its own: a dictionary over a
shared root, with `copy` and `set_global`; the C05 check runs random operation sequences on the real class and, through the
driver's `scope` operation, on this model.  The interpreter does not run on `ScopeStore` — `Eval` keeps its own environment
(`Env`) — and what `tal:define` / `tal:repeat` do to that is proved in `Props/C05Eval`, `C05Multi`, `C05Global`. -/
namespace ChamVerif

theorem Dict.get_set_same (d : Dict) (k : Str) (v : Val) : (d.set k v).get k = some v := by
  induction d with
  | nil => simp [Dict.set, Dict.get]
  | cons e d ih =>
    obtain ⟨a, b⟩ := e
    simp only [Dict.set]
    by_cases h : (a == k) = true
    · simp [h, Dict.get]
    · simp [h, Dict.get, ih]

theorem Dict.get_set_other (d : Dict) (k k' : Str) (v : Val) (hne : k' ≠ k) : (d.set k v).get k' = d.get k' := by
  have hb : (k == k') = false := by simpa using (fun h => hne h.symm)
  induction d with
  | nil => simp [Dict.set, Dict.get, hb]
  | cons e d ih =>
    obtain ⟨a, b⟩ := e
    simp only [Dict.set]
    by_cases h : (a == k) = true
    · have hak : a = k := by simpa using h
      simp [Dict.get, hb, hak]
    · simp [h, Dict.get, ih]

/-- keys are unique in a dictionary -/
def Dict.WF : Dict → Prop
  | [] => True
  | (a, _) :: r => Dict.get r a = none ∧ Dict.WF r

theorem Dict.get_del_other (d : Dict) (k k' : Str) (hne : k' ≠ k) : (d.del k).get k' = d.get k' := by
  induction d with
  | nil => rfl
  | cons e d ih =>
    obtain ⟨a, b⟩ := e
    simp only [Dict.del]
    by_cases h : (a == k) = true
    · have hak : a = k := by simpa using h
      have : (a == k') = false := by rw [hak]; simpa using (fun h => hne h.symm)
      simp [h, Dict.get, this]
    · simp [h, Dict.get, ih]

theorem Dict.get_del_same (d : Dict) (k : Str) (hwf : d.WF) : (d.del k).get k = none := by
  induction d with
  | nil => rfl
  | cons e d ih =>
    obtain ⟨a, b⟩ := e
    simp only [Dict.del]
    by_cases h : (a == k) = true
    · have hak : a = k := by simpa using h
      simp only [h, if_true]
      rw [← hak]; exact hwf.1
    · simp [h, Dict.get, ih hwf.2]

theorem Dict.WF_set (d : Dict) (k : Str) (v : Val) (hwf : d.WF) : (d.set k v).WF := by
  induction d with
  | nil => simp [Dict.set, Dict.WF, Dict.get]
  | cons e d ih =>
    obtain ⟨a, b⟩ := e
    simp only [Dict.set]
    by_cases h : (a == k) = true
    · have hak : a = k := by simpa using h
      simp only [h, if_true, Dict.WF]
      exact ⟨by rw [← hak]; exact hwf.1, hwf.2⟩
    · simp only [h, Bool.false_eq_true, if_false, Dict.WF]
      refine ⟨?_, ih hwf.2⟩
      rw [Dict.get_set_other _ _ _ _ (by intro e; apply h; simp [e])]
      exact hwf.1

namespace ScopeStore
theorem own_setOwn_other (s : ScopeStore) (i j : Nat) (d : Dict) (hne : j ≠ i) :
    (s.setOwn i d).own j = s.own j := by
  simp [setOwn, own, List.getD_eq_getElem?_getD, Ne.symm hne]
theorem own_setOwn_same (s : ScopeStore) (i : Nat) (d : Dict) (hi : i < s.dicts.length) : (s.setOwn i d).own i = d := by
  simp [setOwn, own, List.getD_eq_getElem?_getD, hi]
theorem root_setOwn (s : ScopeStore) (i j : Nat) (d : Dict) : (s.setOwn i d).root j = s.root j := rfl
end ScopeStore

/-- the `_enter_assignment` … `_leave_assignment` bracket on one dictionary -/
def Dict.restore (d : Dict) (k : Str) (backup : Option Val) : Dict :=
  match backup with
  | some b => d.set k b
  | none => d.del k

/-- **C05 (bracket)**: whatever the body bound the name to, after the element the name is bound as
before — present *or absent* alike — and every other name is untouched by the bracket itself. -/
theorem C05_bracket_restores (d : Dict) (k : Str) (v : Val) (hwf : d.WF) :
    ((d.set k v).restore k (d.get k)).get k = d.get k := by
  unfold Dict.restore
  cases h : d.get k with
  | none => simp [Dict.get_del_same _ _ (Dict.WF_set d k v hwf)]
  | some b => simp [Dict.get_set_same]

theorem C05_bracket_frame (d : Dict) (k k' : Str) (v : Val) (hne : k' ≠ k) :
    ((d.set k v).restore k (d.get k)).get k' = d.get k' := by
  unfold Dict.restore
  cases d.get k with
  | none => rw [Dict.get_del_other _ _ _ hne, Dict.get_set_other _ _ _ _ hne]
  | some b => rw [Dict.get_set_other _ _ _ _ hne, Dict.get_set_other _ _ _ _ hne]

namespace ScopeStore

/-- well-formed store: one root entry per scope, every root handle denotes an existing scope -/
structure WF (s : ScopeStore) : Prop where
  len : s.rootOf.length = s.dicts.length
  valid : ∀ i r, s.root i = some r → r < s.dicts.length

theorem own_copy_new (s : ScopeStore) (i : Nat) : (s.copy i).1.own (s.copy i).2 = s.own i := by
  simp [copy, own, List.getD_eq_getElem?_getD]

theorem own_copy_old (s : ScopeStore) (i j : Nat) (hj : j < s.dicts.length) : (s.copy i).1.own j = s.own j := by
  simp [copy, own, List.getD_eq_getElem?_getD, List.getElem?_append_left hj]

theorem root_copy_new (s : ScopeStore) (i : Nat) (hwf : s.WF) :
    (s.copy i).1.root (s.copy i).2 = some (match s.root i with | some r => r | none => i) := by
  have h := hwf.len
  simp only [copy, root, List.getD_eq_getElem?_getD]
  rw [← h, List.getElem?_append_right (Nat.le_refl _)]
  simp
  rfl

theorem root_copy_old (s : ScopeStore) (i j : Nat) (hwf : s.WF) (hj : j < s.dicts.length) :
    (s.copy i).1.root j = s.root j := by
  have hj' : j < s.rootOf.length := by rw [hwf.len]; exact hj
  simp [copy, root, List.getD_eq_getElem?_getD, List.getElem?_append_left hj']

/-- **C05 (a copy sees what the original sees)**: the scope a macro / slot filler runs in starts
with exactly the caller's bindings (the caller being a root scope, as the render scope is). -/
theorem C05_copy_sees_same (s : ScopeStore) (i : Nat) (k : Str) (hwf : s.WF) (hi : i < s.dicts.length)
    (hroot : s.root i = none) :
    (s.copy i).1.get (s.copy i).2 k = s.get i k := by
  unfold get
  rw [own_copy_new, root_copy_new s i hwf, hroot]
  cases h : (s.own i).get k with
  | some v => rfl
  | none => simp only; rw [own_copy_old s i i hi, h]

/-- **C05 (locals of a copy never reach the original)** -/
theorem C05_copy_local_private (s : ScopeStore) (i : Nat) (k k' : Str) (v : Val) (hwf : s.WF)
    (hi : i < s.dicts.length) :
    ((s.copy i).1.setItem (s.copy i).2 k v).get i k' = s.get i k' := by
  have hne : i ≠ (s.copy i).2 := by simp [copy]; omega
  unfold get setItem
  rw [own_setOwn_other _ _ _ _ hne]
  simp only [root_setOwn, own_copy_old s i i hi, root_copy_old s i i hwf hi]
  cases (s.own i).get k' with
  | some v => rfl
  | none =>
    cases hr : s.root i with
    | none => rfl
    | some r =>
      simp only
      have hrl := hwf.valid i r hr
      have hrj : r ≠ (s.copy i).2 := by simp [copy]; omega
      rw [own_setOwn_other _ _ _ _ hrj, own_copy_old s i r hrl]

/-- **C05 (globals persist)**: a value set with `set_global` through a copy is what the (root)
original reads afterwards, unless it shadows the name itself. -/
theorem C05_global_through_copy (s : ScopeStore) (i : Nat) (k : Str) (v : Val) (hwf : s.WF)
    (hi : i < s.dicts.length) (hroot : s.root i = none) (hfresh : (s.own i).get k = none) :
    ((s.copy i).1.setGlobal (s.copy i).2 k v).get i k = some v := by
  unfold setGlobal
  rw [root_copy_new s i hwf, hroot]
  simp only
  unfold get
  rw [own_setOwn_same _ _ _ (by simp [copy]; omega), Dict.get_set_same]

/-- non-vacuity: a concrete well-formed store (a render scope with one binding) -/
example : (ScopeStore.mk [[(lit "x", Val.int 1)]] [none]).WF :=
  ⟨rfl, by intro i r h; cases i <;> simp [root] at h⟩

end ScopeStore
end ChamVerif
