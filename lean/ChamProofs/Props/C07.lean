import ChamVerif.Tal
import ChamProofs.ExceptLemmas
/-! # C07 — attribute rendering: what `prepare_attributes` guarantees -/
namespace ChamVerif

/-- the static part of `prepare_attributes`: attributes that are not dropped, in order, verbatim -/
def staticEntries (attrs : List Attr) (drop : List Str) : List PAttr :=
  (attrs.filter (fun a => !drop.contains a.name.str)).map
    (fun a => (⟨some a.name.str, some a.value, a.quote.str, a.space.str, a.eq.str, none⟩ : PAttr))

/-! ## the three loops of `prepare_attributes`

`prepareAttributes` threads the prepared list and an index from lower-cased names to positions (`PAcc`) through a loop
over the static attributes, one over the `tal:attributes` entries (which can fail: `IndexError`) and one over the
`i18n:attributes` names.  The loop bodies get names here, so that what is proved of `prepare_attributes` is proved of one
step (`prepareAttributes_inv`). -/

abbrev PAcc := List PAttr × List (Str × Int)

/-- a static attribute is appended, and indexed under its lower-cased name -/
def addStatic (acc : PAcc) (a : Attr) : PAcc :=
  let pa : PAttr := ⟨some a.name.str, some a.value, a.quote.str, a.space.str, a.eq.str, none⟩
  let l := acc.1 ++ [pa]
  (l, (lowerStr a.name.str, (l.length : Int) - 1) :: acc.2.filter (·.1 != lowerStr a.name.str))

def staticStep (drop : List Str) (acc : PAcc) (a : Attr) : PAcc :=
  if drop.contains a.name.str then acc else addStatic acc a

/-- a `tal:attributes` entry re-targets the entry its name is indexed at (name and expression), or is appended -/
def dynStep (q : Quirks) (acc : PAcc) (d : Option Tok × Tok) : Option PAcc :=
  let idx : Option Int := match d.1 with
    | some n => if n.str.isEmpty then none else prepareAttributes.lookupNorm acc.2 (lowerStr n.str)
    | none => none
  match idx with
  | some i =>
    match pyIndex acc.1.length i with
    | none => none
    | some k =>
      let old := acc.1.getD k default
      some (acc.1.set k ⟨d.1.map (·.str), old.text, old.quote, old.space, old.eq, some d.2⟩, acc.2)
  | none =>
    let index : Int := acc.1.length
    let norm := match d.1 with
      | some n => (lowerStr n.str, if q.attrIndexOffByOne then index - 1 else index) :: acc.2.filter (·.1 != lowerStr n.str)
      | none => acc.2
    some (acc.1 ++ [⟨d.1.map (·.str), none, [34], [32], [61], some d.2⟩], norm)

/-- an `i18n:attributes` name that is not indexed yet is appended -/
def i18nStep (acc : PAcc) (x : Str × Option Str) : PAcc :=
  let a := lowerStr x.1
  if (prepareAttributes.lookupNorm acc.2 a).isSome then acc else
    let pa : PAttr := ⟨some x.1, some { str := x.1, pos := 0 }, [34], [32], [61], none⟩
    let l := acc.1 ++ [pa]
    (l, (a, (l.length : Int) - 1) :: acc.2)

theorem prepareAttributes_eq (q : Quirks) (attrs : List Attr) (dyn : List (Option Tok × Tok))
    (i18nAttrs : List (Str × Option Str)) (nsOf : Attr → Str) (ns : List ((Str × Str) × Tok)) (dropNs : List Str) :
    prepareAttributes q attrs dyn i18nAttrs nsOf ns dropNs =
      (dyn.foldlM (dynStep q) (attrs.foldl (staticStep (dropNames q attrs nsOf ns dropNs)) ([], []))).map
        (fun ad => (i18nAttrs.foldl i18nStep ad).1) := by
  unfold prepareAttributes; rfl

theorem staticStep_fold (drop : List Str) : ∀ (attrs : List Attr) (acc : PAcc),
    attrs.foldl (staticStep drop) acc = (attrs.filter (fun a => !drop.contains a.name.str)).foldl addStatic acc := by
  intro attrs
  induction attrs with
  | nil => intro acc; rfl
  | cons a attrs ih =>
    intro acc
    rw [List.foldl_cons, List.filter_cons, staticStep]
    cases drop.contains a.name.str <;> exact ih _

theorem addStatic_fold (L : List Attr) : ∀ (acc : PAcc), (L.foldl addStatic acc).1 =
    acc.1 ++ L.map (fun a => (⟨some a.name.str, some a.value, a.quote.str, a.space.str, a.eq.str, none⟩ : PAttr)) := by
  induction L with
  | nil => intro acc; simp
  | cons a L ih => intro acc; rw [List.foldl_cons, ih]; simp [addStatic]

theorem staticStep_fold_fst (drop : List Str) (attrs : List Attr) (acc : PAcc) :
    (attrs.foldl (staticStep drop) acc).1 = acc.1 ++ staticEntries attrs drop := by
  rw [staticStep_fold, addStatic_fold]; rfl

theorem static_fold (drop : List Str) : ∀ (attrs : List Attr) (acc : List PAttr) (norm : List (Str × Int)),
    (attrs.foldl (fun (acc : List PAttr × List (Str × Int)) a =>
      if drop.contains a.name.str then acc else
        let pa : PAttr := ⟨some a.name.str, some a.value, a.quote.str, a.space.str, a.eq.str, none⟩
        let l := acc.1 ++ [pa]
        (l, (lowerStr a.name.str, (l.length : Int) - 1) :: acc.2.filter (·.1 != lowerStr a.name.str))) (acc, norm)).1
    = acc ++ staticEntries attrs drop :=
  fun attrs acc norm => staticStep_fold_fst drop attrs (acc, norm)

/-- **C07 (static attributes verbatim)**: with nothing dynamic targeting the element, the prepared
list is exactly the static attributes as written — name, value, quote, spacing and `=` — in order,
minus the language attributes. -/
theorem C07_static_verbatim (q : Quirks) (attrs : List Attr) (nsOf : Attr → Str) (ns : List ((Str × Str) × Tok)) (dropNs : List Str) :
    prepareAttributes q attrs [] [] nsOf ns dropNs = some (staticEntries attrs (dropNames q attrs nsOf ns dropNs)) := by
  rw [prepareAttributes_eq]
  exact congrArg some (static_fold _ attrs [] [])

theorem pyIndex_eq_some {len : Nat} {i : Int} {k : Nat} :
    pyIndex len i = some k ↔ (k : Int) = (if i < 0 then i + len else i) ∧ k < len := by
  unfold pyIndex
  generalize (if i < 0 then i + (len : Int) else i) = j
  by_cases h : 0 ≤ j ∧ j < len
  · simp only [h.1, h.2, decide_true, Bool.and_self, if_true, Option.some.injEq]; omega
  · have : (decide (0 ≤ j) && decide (j < (len : Int))) = false := by simpa using h
    simp only [this, Bool.false_eq_true, if_false, reduceCtorEq, false_iff]; omega

/-- Python list indexing used for `attributes[index]` -/
theorem pyIndex_nonneg (len : Nat) (i : Nat) (h : i < len) : pyIndex len (i : Int) = some i :=
  pyIndex_eq_some.mpr ⟨by split <;> omega, h⟩

/-- `-1` (what the code before the D-07a fix recorded for the first new name) denotes the *last* entry -/
theorem pyIndex_minus_one (len : Nat) (h : 0 < len) : pyIndex len (-1) = some (len - 1) :=
  pyIndex_eq_some.mpr ⟨by split <;> omega, by omega⟩

/-- the three loops as an induction principle: what holds after the static attributes and is kept by every
`tal:attributes` step and every `i18n:attributes` step holds at the end -/
theorem prepareAttributes_inv (P : PAcc → Prop) {q : Quirks} {attrs : List Attr} {dyn : List (Option Tok × Tok)}
    {i18nAttrs : List (Str × Option Str)} {nsOf : Attr → Str} {ns : List ((Str × Str) × Tok)} {dropNs : List Str}
    {res : List PAttr} (h : prepareAttributes q attrs dyn i18nAttrs nsOf ns dropNs = some res)
    (h0 : P (attrs.foldl (staticStep (dropNames q attrs nsOf ns dropNs)) ([], [])))
    (hdyn : ∀ acc d acc', d ∈ dyn → P acc → dynStep q acc d = some acc' → P acc')
    (hi18n : ∀ acc x, x ∈ i18nAttrs → P acc → P (i18nStep acc x)) : ∃ acc, P acc ∧ acc.1 = res := by
  rw [prepareAttributes_eq, Option.map_eq_some_iff] at h
  obtain ⟨ad, had, hres⟩ := h
  exact ⟨_, List.foldlRecOn i18nAttrs i18nStep (option_foldlM_inv P _ dyn _ ad hdyn h0 had)
    (fun acc hacc x hx => hi18n acc x hx hacc), hres⟩

theorem dynStep_list {q : Quirks} {acc acc' : PAcc} {d : Option Tok × Tok} (h : dynStep q acc d = some acc') :
    (∃ k, k < acc.1.length ∧ acc'.1 = acc.1.set k ⟨d.1.map (·.str), (acc.1.getD k default).text,
      (acc.1.getD k default).quote, (acc.1.getD k default).space, (acc.1.getD k default).eq, some d.2⟩) ∨
    acc'.1 = acc.1 ++ [⟨d.1.map (·.str), none, [34], [32], [61], some d.2⟩] := by
  unfold dynStep at h
  simp only at h
  split at h
  · split at h
    · cases h
    · rename_i k hk; cases h; exact Or.inl ⟨k, (pyIndex_eq_some.mp hk).2, rfl⟩
  · cases h; exact Or.inr rfl

theorem i18nStep_list (acc : PAcc) (x : Str × Option Str) :
    (i18nStep acc x).1 = acc.1 ∨
    (i18nStep acc x).1 = acc.1 ++ [⟨some x.1, some { str := x.1, pos := 0 }, [34], [32], [61], none⟩] := by
  unfold i18nStep; simp only; split
  · exact Or.inl rfl
  · exact Or.inr rfl

/-- `prepareAttributes_inv` for a property of the list alone: true of the static entries, kept when an entry is re-targeted
and when one is appended -/
theorem prepareAttributes_list_inv (P : List PAttr → Prop) {q : Quirks} {attrs : List Attr} {dyn : List (Option Tok × Tok)}
    {i18nAttrs : List (Str × Option Str)} {nsOf : Attr → Str} {ns : List ((Str × Str) × Tok)} {dropNs : List Str}
    {res : List PAttr} (h : prepareAttributes q attrs dyn i18nAttrs nsOf ns dropNs = some res)
    (h0 : P (staticEntries attrs (dropNames q attrs nsOf ns dropNs)))
    (hset : ∀ l k d, d ∈ dyn → P l → k < l.length → P (l.set k ⟨d.1.map (·.str), (l.getD k default).text,
      (l.getD k default).quote, (l.getD k default).space, (l.getD k default).eq, some d.2⟩))
    (hdyn : ∀ l d, d ∈ dyn → P l → P (l ++ [⟨d.1.map (·.str), none, [34], [32], [61], some d.2⟩]))
    (hi18n : ∀ l x, x ∈ i18nAttrs → P l →
      P (l ++ [⟨some x.1, some { str := x.1, pos := 0 }, [34], [32], [61], none⟩])) : P res := by
  obtain ⟨acc, hacc, rfl⟩ := prepareAttributes_inv (fun acc => P acc.1) h
    (by rw [staticStep_fold_fst]; exact h0)
    (fun acc d acc' hd hacc hstep => by
      rcases dynStep_list hstep with ⟨k, hk, he⟩ | he <;> rw [he]
      · exact hset _ k d hd hacc hk
      · exact hdyn _ d hd hacc)
    (fun acc x hx hacc => by
      rcases i18nStep_list acc x with he | he <;> rw [he]
      · exact hacc
      · exact hi18n _ x hx hacc)
  exact hacc

/-- D-07e repaired in /repo: the expression of a named or dictionary `tal:attributes` entry is what the (once decoded)
attribute value says — `createAttributeNodes` does not decode it again -/
theorem C07_attr_decoded_once : Quirks.current.attrDecodeTwice = false := rfl

end ChamVerif
