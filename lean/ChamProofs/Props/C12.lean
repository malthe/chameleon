import ChamVerif.Pipeline
import ChamProofs.Props.C04
import ChamProofs.RunLemmas
/-! # C12 — render errors keep their type and name the failing expression and position -/
namespace ChamVerif

/-- an expression-level computation never *clears* `__token` -/
def KeepsToken {α} (m : XM α) : Prop :=
  ∀ x, x.token.isSome →
    (∀ a x', m x = .ok a x' → x'.token.isSome) ∧ (∀ e x', m x = .raised e x' → x'.token.isSome)

def XRes.HasToken {α} : XRes α → Prop
  | .ok _ x | .raised _ x => x.token.isSome
  | .unsupported _ => True

theorem keepsToken_iff {α} {m : XM α} : KeepsToken m ↔ ∀ x, x.token.isSome → (m x).HasToken := by
  constructor
  · intro h x hx
    cases hm : m x with
    | ok a x' => exact (h x hx).1 a x' hm
    | raised e x' => exact (h x hx).2 e x' hm
    | unsupported w => trivial
  · intro h x hx
    have := h x hx
    exact ⟨fun a x' hm => by rw [hm] at this; exact this, fun e x' hm => by rw [hm] at this; exact this⟩

theorem keeps_pure {α} (a : α) : KeepsToken (pure a : XM α) := keepsToken_iff.2 fun _ hx => hx

theorem keeps_raise {α} (e : Exc) : KeepsToken (xRaise e : XM α) := keepsToken_iff.2 fun _ hx => hx

theorem keeps_unsupported {α} (w : String) : KeepsToken (xUnsupported w : XM α) := keepsToken_iff.2 fun _ _ => trivial

theorem keeps_xSetToken (t : Tok) : KeepsToken (xSetToken t) := keepsToken_iff.2 fun _ _ => rfl

/-- `try m` with a continuation for each way `m` can end; `>>=` re-raises -/
theorem keeps_handle {α β} {m : XM α} (k : α → XM β) (h : Exc → XM β) (hm : KeepsToken m) (hk : ∀ a, KeepsToken (k a))
    (hh : ∀ e, KeepsToken (h e)) {r : XM β}
    (hr : ∀ x, r x = match m x with | .ok a x' => k a x' | .raised e x' => h e x' | .unsupported w => .unsupported w) :
    KeepsToken r := by
  refine keepsToken_iff.2 fun x hx => ?_
  have := keepsToken_iff.1 hm x hx
  rw [hr]
  revert this
  cases m x with
  | ok a x' => exact keepsToken_iff.1 (hk a) x'
  | raised e x' => exact keepsToken_iff.1 (hh e) x'
  | unsupported w => exact fun _ => trivial

theorem keeps_bind {α β} (m : XM α) (f : α → XM β) (hm : KeepsToken m) (hf : ∀ a, KeepsToken (f a)) :
    KeepsToken (m >>= f) :=
  keeps_handle f xRaise hm hf keeps_raise fun _ => rfl

theorem keeps_ite {α} (c : Prop) [Decidable c] {a b : XM α} (ha : KeepsToken a) (hb : KeepsToken b) :
    KeepsToken (fun x => if c then a x else b x) := by
  split <;> assumption

theorem keeps_xLiftR {α} (r : R α) : KeepsToken (xLiftR r) :=
  keepsToken_iff.2 fun _ hx => by cases r <;> first | exact hx | trivial

theorem keeps_runEM {α} (m : EM α) : KeepsToken (runEM m) :=
  keepsToken_iff.2 fun x hx => by
    unfold runEM
    split <;> first | exact hx | trivial

theorem keeps_offerCall (cfg : ECfg) (env : Env) (v : Val) : KeepsToken (offerCall cfg env v) :=
  keepsToken_iff.2 fun x hx => by
    unfold offerCall
    split <;> exact hx

theorem keeps_convertTextX (cfg : ECfg) (env : Env) (esc : Esc) (d : Option Str) (v : Val) :
    KeepsToken (convertTextX cfg env esc d v) := by
  unfold convertTextX
  split
  · exact keeps_unsupported _
  · exact keeps_bind _ _ (keeps_offerCall cfg env v) (fun _ => keeps_xLiftR _)

theorem keeps_convPartX (cfg : ECfg) (env : Env) (esc : Esc) (d : Option Str) (lf : Bool) (v : Val) :
    KeepsToken (convPartX cfg env esc d lf v) := by
  unfold convPartX
  split
  · exact keeps_convertTextX cfg env esc d v
  · refine keeps_bind _ _ (keeps_xLiftR _) (fun b => ?_)
    split
    · exact keeps_convertTextX cfg env esc d v
    · exact keeps_pure _

/-- the TALES evaluator (all four mutually recursive functions) never clears the token -/
theorem keeps_evalT (cfg : ECfg) (al : List (Str × Val)) (env : Env) : ∀ (f : Nat),
    (∀ e esc d, KeepsToken (evalT cfg al env f e esc d)) ∧
    (∀ alts esc d, KeepsToken (evalAlts cfg al env f alts esc d)) ∧
    (∀ ps esc d lf, KeepsToken (evalParts cfg al env f ps esc d lf)) ∧
    (∀ ps esc d lf, KeepsToken (partsText cfg al env f ps esc d lf)) := by
  intro f
  induction f with
  | zero =>
    refine ⟨?_, ?_, ?_, ?_⟩ <;> intros <;> simp only [evalT, evalAlts, evalParts, partsText] <;> exact keeps_unsupported _
  | succ f ih =>
    obtain ⟨ihT, ihA, ihP, ihX⟩ := ih
    refine ⟨?_, ?_, ?_, ?_⟩
    · intro e esc d
      cases e with
      | unsupported w => simp only [evalT]; exact keeps_unsupported _
      | py alts => simp only [evalT]; exact ihA alts esc d
      | not_ e tok =>
        simp only [evalT]
        exact keeps_bind _ _ (keeps_xSetToken tok) (fun _ => keeps_bind _ _ (ihT e esc d)
          (fun v => keeps_bind _ _ (keeps_xLiftR _) (fun b => keeps_pure _)))
      | exists_ e =>
        -- a caught exception becomes the answer 0, in the state the operand left
        exact keeps_handle (fun _ => pure (Val.int 1))
          (fun ex x' => if isSubclass cfg ex.cls cfg.existsExc then (pure (Val.int 0) : XM Val) x' else xRaise ex x')
          (ihT e esc d) (fun _ => keeps_pure _) (fun ex => keeps_ite _ (keeps_pure _) (keeps_raise ex))
          (fun x => by simp only [evalT]; cases evalT cfg al env f e esc d x <;> rfl)
      | structure_ e tok =>
        simp only [evalT]
        refine keeps_bind _ _ (keeps_xSetToken tok) (fun _ => keeps_bind _ _ (ihT e esc d) (fun v => ?_))
        cases v <;> first
          | exact keeps_pure _
          | exact keeps_bind _ _ (keeps_xLiftR _) (fun s => keeps_pure _)
      | str parts =>
        simp only [evalT]
        refine keeps_bind _ _ (ihP parts esc d true) (fun r => ?_)
        cases r <;> exact keeps_pure _
    · intro alts esc d
      cases alts with
      | nil => simp only [evalAlts]; exact keeps_unsupported _
      | cons a rest =>
        -- a caught exception moves on to the remaining alternatives, from the state the failed one left
        have ha : KeepsToken (evalAlt cfg al env f a esc d) := by
          cases a with
          | expr e => exact keeps_runEM _
          | nested e tok => exact keeps_bind _ _ (keeps_xSetToken tok) (fun _ => ihT e esc d)
        exact keeps_handle pure
          (fun ex x' => if rest.isEmpty then xRaise ex x'
            else if isSubclass cfg ex.cls cfg.talesExc then evalAlts cfg al env f rest esc d x' else xRaise ex x')
          ha keeps_pure (fun ex => keeps_ite _ (keeps_raise ex) (keeps_ite _ (ihA rest esc d) (keeps_raise ex)))
          (fun x => by rw [evalAlts_cons]; cases evalAlt cfg al env f a esc d x <;> rfl)
    · intro ps esc d lf
      simp only [evalParts]
      split
      · exact keeps_pure _
      · rename_i e tok _
        exact keeps_bind _ _ (keeps_xSetToken tok) fun _ => keeps_bind _ _ (ihT e esc d) fun v => keeps_convPartX cfg env esc d lf v
      · exact keeps_bind _ _ (ihX ps esc d lf) (fun rs => keeps_pure _)
    · intro ps esc d lf
      cases ps with
      | nil => simp only [partsText]; exact keeps_pure _
      | cons p rest =>
        simp only [partsText]
        have hrest : ∀ a : Str, KeepsToken (do let b ← partsText cfg al env f rest esc d lf; pure (a ++ b)) :=
          fun a => keeps_bind _ _ (ihX rest esc d lf) (fun b => keeps_pure _)
        cases p with
        | lit s => exact keeps_bind _ _ (keeps_pure _) hrest
        | expr e tok t =>
          exact keeps_bind _ _ (keeps_xSetToken tok) fun _ => keeps_bind _ _ (ihT e esc d) fun v =>
            keeps_bind _ _ (keeps_convPartX cfg env esc d lf v) fun t => keeps_bind _ _ (keeps_pure _) hrest

/-- **C12 (token bookkeeping)**: evaluating a `Value` sets `__token` to the expression's position
before any Python code runs: if it raises, the token is set (so the render function's handler can
record the failing expression). -/
theorem C12_token_set_when_value_raises (cfg : ECfg) (al : List (Str × Val)) (env : Env) (tok : Tok) (esc : Esc)
    (d : Option Str) (x : XState) (e : Exc) (x' : XState)
    (h : evalValue cfg al env tok esc d x = .raised e x') : x'.token.isSome := by
  unfold evalValue compileAt at h
  cases hc : compileTales cfg.tc 64 tok with
  | ok t =>
    simp only [hc, bind, pure] at h
    have hk := (keeps_evalT cfg al env 64).1 t esc d
    have hset : (xSetToken tok x) = .ok () { x with token := some ((Tok.strip tok).pos, (Tok.strip tok).str.length) } := rfl
    simp only [hset] at h
    exact (hk _ rfl).2 e x' h
  | error err =>
    cases err with
    | template cls msg etok =>
      simp only [hc, bind, xSetTokenRaw, xRaise] at h
      cases h; rfl
    | templateNoSrc cls msg t => simp [hc, bind, xUnsupported] at h
    | crash cls => simp [hc, bind, xUnsupported] at h

/-- **C12 (record)**: for an exception in the `Exception` hierarchy (other than `Exception` itself) the
message record is the source text at the token — `source[pos : pos+len]` — with its line and column -/
theorem C12_record (cfg : ECfg) (body : Str) (ex : Exc) (pos len : Nat)
    (h1 : isSubclass cfg ex.cls ["Exception"] = true) (h2 : ex.cls ≠ "Exception") (h3 : ex.cls ≠ "BaseException") :
    errorRecords cfg body ex (some (pos, len)) =
      [{ text := ((cfg.locate pos).1.drop (cfg.locate pos).2).take len,
         line := (Tok.location (cfg.locate pos).1 { str := [], pos := (cfg.locate pos).2 }).1,
         col := (Tok.location (cfg.locate pos).1 { str := [], pos := (cfg.locate pos).2 }).2 }] := by
  simp [errorRecords, h1, h2, h3]

/-- a position is looked up in the template it belongs to; without library templates that is the template itself -/
theorem locate_main (cfg : ECfg) (pos : Nat) (h : cfg.libs = []) : cfg.locate pos = (cfg.src, pos) := by
  simp [ECfg.locate, h]

/-- … and inside library `l` (whose tokens start at `l.base`) it is the offset from `l.base` in that library's source -/
theorem locate_lib (cfg : ECfg) (l : LibTpl) (pos : Nat) (h : cfg.libs = [l]) (h1 : l.base ≤ pos) (h2 : pos < l.base + l.src.length + 1) :
    cfg.locate pos = (l.src, pos - l.base) := by
  simp [ECfg.locate, h, h1, h2]

/-- **C12 (a failure inside a macro of another template)**: the record shows the text, line and column *in that template's
source* — the offset from the library's base position — not in the source of the template being rendered -/
theorem C12_lib_record (cfg : ECfg) (l : LibTpl) (body : Str) (ex : Exc) (pos len : Nat) (hl : cfg.libs = [l])
    (h1 : isSubclass cfg ex.cls ["Exception"] = true) (h2 : ex.cls ≠ "Exception") (h3 : ex.cls ≠ "BaseException")
    (hp1 : l.base ≤ pos) (hp2 : pos < l.base + l.src.length + 1) :
    errorRecords cfg body ex (some (pos, len)) =
      [{ text := (l.src.drop (pos - l.base)).take len,
         line := (Tok.location l.src { str := [], pos := pos - l.base }).1,
         col := (Tok.location l.src { str := [], pos := pos - l.base }).2 }] := by
  rw [C12_record cfg body ex pos len h1 h2 h3, locate_lib cfg l pos hl hp1 hp2]

/-- **C12 (outside the Exception hierarchy)**: KeyboardInterrupt, SystemExit … get no records: they are
not re-typed (the behaviour of /repo after the D-12a fix) -/
theorem C12_base_exception_untouched (cfg : ECfg) (body : Str) (ex : Exc) (tok : Option (Nat × Nat))
    (h : isSubclass cfg ex.cls ["Exception"] = false) : errorRecords cfg body ex tok = [] := by
  simp [errorRecords, h]

/-- **C12 (call sites, innermost first)**: when the body of a macro raises with its `__token` set, the macro function's
handler appends that position to the error list and re-raises; the caller's own `__token` stays unset (it was reset before
the call of an internal macro) — so the render function's handler, which runs last, adds the outermost record
last -/
theorem C12_macro_records_then_reraises (cfg : ECfg) (al : List (Str × Val)) (f : Nat) (nm : Str) (body : Node)
    (s s' : RState) (ex : Exc) (t : Nat × Nat)
    (hm : lookupAssoc (cfg.macrosOf s.env.topFrame.tid) nm = some body)
    (hb : eval cfg [] f body (macroEnter s.env.topFrame.tid body { s with x := { s.x with token := none } }) = .raised ex s')
    (ht : s'.x.token = some t) :
    ∃ s'', eval cfg al (f + 1) (.useInternal (some nm)) s = .raised ex s'' ∧ s''.errs = s'.errs.push t ∧
      s''.x.token = none ∧ s''.env.own = s.env.own ∧ s''.streams = s'.streams := by
  refine ⟨macroRaise { s with x := { s.x with token := none } } s', ?_, ?_, rfl, rfl, rfl⟩
  · simp [eval, hm, hb]
  · simp [macroRaise, ht]

/-- the records of the message: those of the functions the exception passed through, in the order they were appended
(innermost first), then the render function's own -/
theorem C12_records_order (cfg : ECfg) (src : Str) (ex : Exc) (tok : Nat × Nat) (inner : List (Nat × Nat))
    (h : ¬(ex.cls == "Exception" || ex.cls == "BaseException" || !isSubclass cfg ex.cls ["Exception"]) = true) :
    (errorRecords cfg src ex (some tok) inner).map (·.text) =
      (inner ++ [tok]).map (fun p => ((cfg.locate p.1).1.drop (cfg.locate p.1).2).take p.2) := by
  unfold errorRecords
  simp only [h, if_false, Bool.false_eq_true, List.map_map]
  apply List.map_congr_left
  intro p _
  obtain ⟨a, b⟩ := p
  rfl

/-- **C12 (failure inside a slot filler)**: when the filler of a slot raises with its `__token` set, the record that is
appended is the *filler's* position — the failing expression — and the macro function continues to unwind with its own
`__token` cleared, so that its handler (`macroRaise`) adds nothing of its own: the message names the failing expression
and then the `use-macro` call site, not the last expression the macro happened to evaluate (the behaviour of /repo after
the D-12d fix) -/
theorem C12_filler_records_failing_expression (cfg : ECfg) (al : List (Str × Val)) (f : Nat) (nm : Tok) (node : Node)
    (s s' : RState) (cid : Nat) (cl : Closure) (ex : Exc) (t : Nat × Nat)
    (h : lookupAssoc s.env.topFrame.slotFns (mangleName nm.str) = some (some cid))
    (hc : s.closures[cid]? = some cl)
    (hb : eval cfg cl.al f cl.node (fillerEnter cl s) = .raised ex s')
    (ht : s'.x.token = some t) :
    ∃ s'', eval cfg al (f + 1) (.defineSlot nm node) s = .raised ex s'' ∧ s''.errs = s'.errs.push t ∧
      s''.x.token = none ∧ (fillerEnter cl s).x.token = none ∧
      (∀ caller, (macroRaise caller s'').errs = s''.errs) := by
  refine ⟨fillerRaise s s', ?_, ?_, rfl, rfl, fun _ => rfl⟩
  · rw [eval_defineSlot, slotOf_filled cfg f nm _ s h hc, hb]
  · simp only [fillerRaise, ht]

end ChamVerif
