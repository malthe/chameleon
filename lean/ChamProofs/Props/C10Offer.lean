import ChamVerif.Eval
/-! # C10 — a value that is not a string, a number or an `__html__` object is offered to the translation function

`offerCall` is the call `__convert` / `__quote` make before a value is converted to text.  The theorems state the last
clause of C10 on the model: exactly the values of class `other` (no `None`, marker, bytes, `str`, exact `int`, `__html__`
object) are offered, exactly once per insertion, with the domain, context and target language of the enclosing frame;
everything else is inserted without any call. -/
namespace ChamVerif

/-- is the value class one that is offered -/
def QIn.isOther : QIn → Bool
  | .other _ _ => true
  | _ => false

/-- **C10 (offered)**: a value of class `other` is offered: one call, with its string form and the frame's settings -/
theorem C10_other_offered (cfg : ECfg) (env : Env) (v : Val) (s : Str) (tr : Option (Option Str)) (x : XState)
    (hq : toQIn cfg v = .ok (.other s tr)) :
    offerCall cfg env v x = .ok () { x with tlog := x.tlog.push (offerOf env.topFrame s) } := by
  simp only [offerCall, hq]

/-- **C10 (nothing else is offered)**: `None`, the marker, bytes, strings, numbers and `__html__` objects are inserted
without a call -/
theorem C10_plain_not_offered (cfg : ECfg) (env : Env) (v : Val) (q : QIn) (x : XState)
    (hq : toQIn cfg v = .ok q) (hno : q.isOther = false) : offerCall cfg env v x = .ok () x := by
  simp only [offerCall, hq]
  cases q <;> first | rfl | (simp [QIn.isOther] at hno)

/-- the offer never fails and changes nothing but the call log -/
theorem offerCall_ok (cfg : ECfg) (env : Env) (v : Val) (x : XState) :
    ∃ x', offerCall cfg env v x = .ok () x' ∧ x'.log = x.log ∧ x'.token = x.token := by
  unfold offerCall
  split
  · exact ⟨_, rfl, rfl, rfl⟩
  · exact ⟨_, rfl, rfl, rfl⟩

theorem convertTextX_eq (cfg : ECfg) (env : Env) (esc : Esc) (d : Option Str) (v : Val) (hesc : esc ≠ .emptyQ) :
    convertTextX cfg env esc d v = (offerCall cfg env v >>= fun _ => xLiftR (convertText cfg esc d v)) := by
  have he : (esc == Esc.emptyQ) = false := beq_eq_false_iff_ne.mpr hesc
  simp only [convertTextX, he, Bool.false_eq_true, if_false]

theorem convertText_ok (cfg : ECfg) (esc : Esc) (d : Option Str) (v : Val) (q : QIn) (hq : toQIn cfg v = .ok q)
    (hesc : esc ≠ .emptyQ) : ∃ t, convertText cfg esc d v = .ok t := by
  have he : (esc == Esc.emptyQ) = false := beq_eq_false_iff_ne.mpr hesc
  simp only [convertText, he, Bool.false_eq_true, if_false, hq, bind, pure]
  cases escQ esc with
  | none => cases q <;> exact ⟨_, rfl⟩
  | some p => exact ⟨_, rfl⟩

/-- **C10 (before the conversion, once)**: converting a value of class `other` for insertion at any site logs exactly
one call — the offer — and yields what `__quote`/`__convert` make of what the translation function returned -/
theorem C10_conversion_offers_once (cfg : ECfg) (env : Env) (esc : Esc) (d : Option Str) (v : Val) (s : Str)
    (tr : Option (Option Str)) (x : XState) (hq : toQIn cfg v = .ok (.other s tr)) (hesc : esc ≠ .emptyQ) :
    ∃ t, convertText cfg esc d v = .ok t ∧
      convertTextX cfg env esc d v x = .ok t { x with tlog := x.tlog.push (offerOf env.topFrame s) } := by
  obtain ⟨t, ht⟩ := convertText_ok cfg esc d v _ hq hesc
  refine ⟨t, ht, ?_⟩
  simp only [convertTextX_eq cfg env esc d v hesc, bind, C10_other_offered cfg env v s tr x hq, xLiftR, ht]

/-- … and a plain value is converted without any call -/
theorem C10_conversion_plain (cfg : ECfg) (env : Env) (esc : Esc) (d : Option Str) (v : Val) (q : QIn) (x : XState)
    (hq : toQIn cfg v = .ok q) (hno : q.isOther = false) (hesc : esc ≠ .emptyQ) :
    ∃ t, convertText cfg esc d v = .ok t ∧ convertTextX cfg env esc d v x = .ok t x := by
  obtain ⟨t, ht⟩ := convertText_ok cfg esc d v _ hq hesc
  refine ⟨t, ht, ?_⟩
  simp only [convertTextX_eq cfg env esc d v hesc, bind, C10_plain_not_offered cfg env v q x hq hno, xLiftR, ht]

/-- a false value of a boolean attribute is dropped before any conversion: not offered -/
theorem C10_false_boolean_not_offered (cfg : ECfg) (env : Env) (esc : Esc) (d : Option Str) (v : Val) (x : XState)
    (hf : Val.truthy cfg.tab v = .ok false) : convPartX cfg env esc d false v x = .ok none x := by
  simp only [convPartX, Bool.false_eq_true, if_false, bind, xLiftR, hf, pure]

/-- non-vacuity: `True` is of class `other` (so `${True}` is offered: `type(True) is int` is false), a string is not -/
example (cfg : ECfg) : ∃ s tr, toQIn cfg (.bool true) = .ok (.other s tr) := ⟨_, _, rfl⟩
example (cfg : ECfg) : toQIn cfg (.str [97]) = .ok (.str [97]) ∧ (QIn.str [97]).isOther = false := ⟨rfl, rfl⟩

end ChamVerif
