import ChamVerif.Eval
/-! # C04 — expressions follow TALES semantics and are evaluated exactly once, in order -/
namespace ChamVerif

/-- **tie**: the exception classes a pipe moves on for, as read from `TalesExpr.exceptions` and
`ExistsExpr.exceptions` in /repo today -/
theorem C04_caught_set :
    Gen.talesExceptions = ["AttributeError", "NameError", "LookupError", "TypeError", "ValueError"] ∧
    Gen.existsExceptions = ["AttributeError", "LookupError", "TypeError", "NameError"] := by decide

/-- subclass closure as Python sees it (MROs read from the live classes): KeyError and IndexError are
LookupErrors, UnboundLocalError a NameError, UnicodeDecodeError a ValueError; ZeroDivisionError,
RuntimeError, AssertionError, OSError, KeyboardInterrupt are not caught -/
theorem C04_caught_closure :
    let caught (c : String) : Bool := match Gen.excParents.find? (·.1 == c) with
      | some (_, mro) => mro.any (fun x => Gen.talesExceptions.contains x)
      | none => false
    (["AttributeError", "NameError", "UnboundLocalError", "LookupError", "KeyError", "IndexError", "TypeError",
      "ValueError", "UnicodeDecodeError"].all caught) = true ∧
    (["ZeroDivisionError", "RuntimeError", "RecursionError", "AssertionError", "OSError", "Exception",
      "KeyboardInterrupt", "SystemExit", "StopIteration"].any caught) = false := by decide

/-- evaluation of one pipe alternative -/
def evalAlt (cfg : ECfg) (al : List (Str × Val)) (env : Env) (f : Nat) (a : PyAlt) (esc : Esc) (dflt : Option Str) : XM Val :=
  match a with
  | .expr e => runEM (evalP (mkECtx cfg al env) 200 e)
  | .nested e tok => (do xSetToken tok; evalT cfg al env f e esc dflt)

theorem evalAlts_cons (cfg : ECfg) (al : List (Str × Val)) (env : Env) (f : Nat) (a : PyAlt) (rest : List PyAlt)
    (esc : Esc) (dflt : Option Str) (x : XState) :
    evalAlts cfg al env (f+1) (a :: rest) esc dflt x =
      match evalAlt cfg al env f a esc dflt x with
      | .ok v x' => .ok v x'
      | .unsupported w => .unsupported w
      | .raised ex x' =>
        if rest.isEmpty then .raised ex x'
        else if isSubclass cfg ex.cls cfg.talesExc then evalAlts cfg al env f rest esc dflt x'
        else .raised ex x' := by
  simp only [evalAlts, evalAlt]
  cases a <;> rfl

/-- the alternatives `pre` all raise caught exceptions, threading the expression state from `x` to `x'`;
`g` is the fuel the first of them is evaluated with (the pipe itself running with fuel `g + 1`) -/
inductive CaughtChain (cfg : ECfg) (al : List (Str × Val)) (env : Env) (esc : Esc) (dflt : Option Str) :
    Nat → List PyAlt → XState → XState → Prop
  | nil (g : Nat) (x : XState) : CaughtChain cfg al env esc dflt g [] x x
  | cons (g : Nat) (a : PyAlt) (pre : List PyAlt) (x x1 x' : XState) (ex : Exc) :
      evalAlt cfg al env (g+1) a esc dflt x = .raised ex x1 →
      isSubclass cfg ex.cls cfg.talesExc = true →
      CaughtChain cfg al env esc dflt g pre x1 x' →
      CaughtChain cfg al env esc dflt (g+1) (a :: pre) x x'

theorem evalAlts_skip (cfg : ECfg) (al : List (Str × Val)) (env : Env) (esc : Esc) (dflt : Option Str) :
    ∀ (pre : List PyAlt) (g : Nat) (rest : List PyAlt) (x x' : XState), rest ≠ [] →
      CaughtChain cfg al env esc dflt g pre x x' →
      evalAlts cfg al env (g + 1) (pre ++ rest) esc dflt x = evalAlts cfg al env (g - pre.length + 1) rest esc dflt x' := by
  intro pre
  induction pre with
  | nil => intro g rest x x' _ hc; cases hc; rfl
  | cons b pre ih =>
    intro g rest x x' hr hc
    cases hc with
    | cons g' _ _ _ x1 _ ex hb hsub hrest =>
      have hne : (pre ++ rest).isEmpty = false := by
        cases pre with
        | nil => cases rest with
          | nil => exact absurd rfl hr
          | cons _ _ => rfl
        | cons _ _ => rfl
      rw [List.cons_append, evalAlts_cons, hb]
      simp only [hne, hsub, Bool.false_eq_true, if_false, if_true]
      rw [ih g' rest x1 x' hr hrest, List.length_cons, Nat.add_sub_add_right]

/-- **C04 (pipe)**: `a₁ | … | aₖ | …`: if every alternative before `aₖ` raised one of the caught
(lookup-type) exceptions and `aₖ` succeeds, the value is `aₖ`'s and the state — in particular the
evaluation log — is the one after `aₖ`: no later alternative was evaluated. -/
theorem C04_pipe_first_success (cfg : ECfg) (al : List (Str × Val)) (env : Env) (esc : Esc) (dflt : Option Str) :
    ∀ (pre : List PyAlt) (g : Nat) (a : PyAlt) (post : List PyAlt) (x x' x'' : XState) (v : Val),
      CaughtChain cfg al env esc dflt g pre x x' →
      evalAlt cfg al env (g - pre.length) a esc dflt x' = .ok v x'' →
      evalAlts cfg al env (g + 1) (pre ++ a :: post) esc dflt x = .ok v x'' := by
  intro pre g a post x x' x'' v hc ha
  rw [evalAlts_skip cfg al env esc dflt pre g (a :: post) x x' (List.cons_ne_nil _ _) hc, evalAlts_cons, ha]

/-- … and an exception that is *not* of a caught class propagates at once: nothing after it is evaluated. -/
theorem C04_pipe_uncaught_propagates (cfg : ECfg) (al : List (Str × Val)) (env : Env) (esc : Esc) (dflt : Option Str) :
    ∀ (pre : List PyAlt) (g : Nat) (a : PyAlt) (post : List PyAlt) (x x' x'' : XState) (ex : Exc),
      CaughtChain cfg al env esc dflt g pre x x' →
      evalAlt cfg al env (g - pre.length) a esc dflt x' = .raised ex x'' →
      isSubclass cfg ex.cls cfg.talesExc = false →
      evalAlts cfg al env (g + 1) (pre ++ a :: post) esc dflt x = .raised ex x'' := by
  intro pre g a post x x' x'' ex hc ha hs
  rw [evalAlts_skip cfg al env esc dflt pre g (a :: post) x x' (List.cons_ne_nil _ _) hc, evalAlts_cons, ha]
  simp only [hs, Bool.false_eq_true, if_false, ite_self]

/-- **C04 (evaluated once)**: reading a value that an enclosing `Cache` node evaluated does not
evaluate anything: the expression state (logs, token) is untouched. -/
theorem C04_cached_read_pure (env : Env) (id : Nat) (x : XState) :
    (∃ v, getCached env id x = .ok v x) ∨ (∃ w, getCached env id x = .unsupported w) := by
  unfold getCached
  cases env.topFrame.cache.find? (·.1 == id) with
  | some p => left; exact ⟨p.2, rfl⟩
  | none => right; exact ⟨_, rfl⟩

/-- **C04 (names)**: a template variable wins over a Python builtin of the same name; an unbound
non-builtin name is a `NameError` carrying the name. -/
theorem C04_name_template_first (c : ECtx) (n : Str) (v : Val) (s : ESt)
    (hs : startsWith n (lit "__") = false) (hi : n.toString ∉ internals)
    (hal : lookupAssoc c.aliases n = none) (hv : lookupAssoc c.vars n = some v) :
    resolveName c n s = (.ok v, s) := by
  simp [resolveName, hs, hi, hal, hv, Pure.pure]

theorem C04_name_unbound (c : ECtx) (n : Str) (s : ESt)
    (hs : startsWith n (lit "__") = false) (hi : n.toString ∉ internals)
    (hal : lookupAssoc c.aliases n = none) (hv : lookupAssoc c.vars n = none)
    (hnb : n.toString ≠ "nothing" ∧ n.toString ≠ "macros" ∧ n.toString ≠ "template")
    (hm : n.toString ∉ modelledFns) (hb : n.toString ∉ c.pyBuiltins) :
    resolveName c n s = (.raised { cls := "NameError", msg := n }, s) := by
  simp [resolveName, hs, hi, hal, hv, hnb.1, hnb.2.1, hnb.2.2, hm, hb, emRaise, liftR]

end ChamVerif
