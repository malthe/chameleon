import ChamProofs.Props.C05Eval
/-! # C09 — `macroname` is bound for the use, and only for the use -/
namespace ChamVerif

/-- **C09 (`macroname` is scoped to the use)**: the node the builder makes of a `metal:use-macro` element binds `macroname`
(locally) to the name that was used and then calls the macro; whatever the macro, its slot fillers and nested uses do —
a nested use binds `macroname` to *its* name — when the use has finished, `macroname` is what it was before (the outer
use's name inside another macro's body or filler, undefined on the page).  (`f + 3` as in `C05_local_define_restores`:
the define node, its one clause, the end of the clause list.) -/
theorem C09_macroname_scoped (cfg : ECfg) (al : List (Str × Val)) (f : Nat) (p : ElemStmts) (macroTok : Tok) (ext : Bool)
    (slots : List (Tok × Node)) (body : List Node) (s s' : RState) (hk : p.kind = .macroUse macroTok ext)
    (h : eval cfg al (f + 3) (p.innerNode slots body) s = .ok () s') :
    s'.env.get (lit "macroname") = s.env.get (lit "macroname") := by
  unfold ElemStmts.innerNode at h
  simp only [hk] at h
  exact C05_local_define_restores cfg al f { str := lit "macroname", pos := 0 } (.const (rsplitSlash macroTok.str))
    (.useExternal (.value macroTok) slots ext) s s' h

end ChamVerif
