import ChamProofs.RunLemmas  -- for the equation lemmas of `eval`, generated there (see `eval_define`)
/-! # C10 — i18n: what the interpreter model does for `i18n:translate`, `i18n:name`, `i18n:domain` -/
namespace ChamVerif

/-- the state in which the body of a translation is evaluated: a fresh mapping for its names, a fresh stream -/
def tEnter (names : List Str) (s : RState) : RState :=
  let s1 : RState := { s with tmaps := names.map (fun n => (n, [])) :: s.tmaps }
  { s1 with streams := [] :: s1.streams }

def tNames (node : Node) : List Str := (namesOf 64 node).eraseDups

def tMapping (names : List Str) (s2 : RState) : Option (List (Str × Str)) :=
  if names.isEmpty then none else some (s2.tmaps.headD [])

def tTarget (s : RState) : Option Str := match s.env.topFrame.targetLang with | .str t => some t | _ => none

/-- **C10 (called exactly once, with the computed message)**: when the body of an element marked `i18n:translate=""`
renders to `body` (with its `i18n:name` children already replaced by `${name}` and collected in the mapping), the
translation function is called exactly once more than the body called it, with message id = default = `body` with
white space collapsed and trimmed, that mapping, and the domain, context and target language in force; and exactly
what it returns is appended to the output. -/
theorem C10_translate_once (cfg : ECfg) (al : List (Str × Val)) (f id : Nat) (node : Node) (s s2 : RState)
    (body top : Str) (rest : List Str)
    (hb : eval cfg al f node (tEnter (tNames node) s) = .ok () s2)
    (hs : s2.streams = body :: top :: rest)
    (hne : (stripStr (collapseWsStr body)).isEmpty = false) :
    ∃ s3, eval cfg al (f + 1) (.translate id none node) s = .ok () s3 ∧
      s3.x.tlog = s2.x.tlog.push {
        msgid := stripStr (collapseWsStr body), mapping := tMapping (tNames node) s2,
        dflt := some (stripStr (collapseWsStr body)), domain := s2.env.topFrame.domain, context := s2.env.topFrame.context,
        target := tTarget s2 } ∧
      s3.streams = (top ++ simpleTranslate cfg.tc.rx (stripStr (collapseWsStr body)) (tMapping (tNames node) s2)
        (some (stripStr (collapseWsStr body)))) :: rest := by
  unfold tEnter tNames at hb
  simp only [eval, bind, mModify, pushStream, hb, popStream, hs, mGet, hne, Bool.false_eq_true, if_false,
    liftX, callTranslate, emit]
  refine ⟨_, rfl, ?_, ?_⟩
  · simp only [tMapping, tTarget, tNames, List.isEmpty_iff]
    congr
  · simp only [tMapping, tNames, List.isEmpty_iff]

/-- with an explicit id the id is the message id and the computed text is the default; the call is made even when the
body is empty -/
theorem C10_translate_explicit (cfg : ECfg) (al : List (Str × Val)) (f id : Nat) (node : Node) (m : Str) (s s2 : RState)
    (body top : Str) (rest : List Str)
    (hb : eval cfg al f node (tEnter (tNames node) s) = .ok () s2)
    (hs : s2.streams = body :: top :: rest) :
    ∃ s3, eval cfg al (f + 1) (.translate id (some m) node) s = .ok () s3 ∧
      s3.x.tlog = s2.x.tlog.push {
        msgid := m, mapping := tMapping (tNames node) s2, dflt := some (stripStr (collapseWsStr body)),
        domain := s2.env.topFrame.domain, context := s2.env.topFrame.context, target := tTarget s2 } ∧
      s3.streams = (top ++ simpleTranslate cfg.tc.rx m (tMapping (tNames node) s2) (some (stripStr (collapseWsStr body)))) :: rest := by
  unfold tEnter tNames at hb
  simp only [eval, bind, mModify, pushStream, hb, popStream, hs, mGet, liftX, callTranslate, emit]
  refine ⟨_, rfl, ?_, ?_⟩
  · simp only [tMapping, tTarget, tNames, List.isEmpty_iff]
    congr
  · simp only [tMapping, tNames, List.isEmpty_iff]

/-- an element whose content renders to nothing (or white space) is not translated: no call, no output -/
theorem C10_empty_not_translated (cfg : ECfg) (al : List (Str × Val)) (f id : Nat) (node : Node) (s s2 : RState)
    (body top : Str) (rest : List Str)
    (hb : eval cfg al f node (tEnter (tNames node) s) = .ok () s2)
    (hs : s2.streams = body :: top :: rest)
    (he : (stripStr (collapseWsStr body)).isEmpty = true) :
    ∃ s3, eval cfg al (f + 1) (.translate id none node) s = .ok () s3 ∧ s3.x.tlog = s2.x.tlog ∧ s3.streams = top :: rest := by
  unfold tEnter tNames at hb
  simp only [eval, bind, mModify, pushStream, hb, popStream, hs, mGet, he, if_true, pure]
  exact ⟨_, rfl, rfl, rfl⟩

/-- an `i18n:name` child puts the placeholder `${name}` into the enclosing message and its own rendered markup into the
innermost mapping -/
theorem C10_name_emits_placeholder (cfg : ECfg) (al : List (Str × Val)) (f : Nat) (nm : Tok) (node : Node) (s s2 : RState)
    (v top : Str) (rest : List Str) (tm : List (Str × Str)) (tms : List (List (Str × Str)))
    (hb : eval cfg al f node { s with streams := [] :: s.streams } = .ok () s2)
    (hs : s2.streams = v :: top :: rest) (ht : s2.tmaps = tm :: tms) :
    ∃ s3, eval cfg al (f + 1) (.name nm node) s = .ok () s3 ∧
      s3.streams = (top ++ (lit "${" ++ nm.str ++ lit "}")) :: rest ∧
      s3.tmaps = tm.map (fun (k, x) => if k == nm.str then (k, v) else (k, x)) :: tms := by
  simp only [eval, bind, pushStream, mModify, hb, popStream, hs, emit, setTName, ht]
  exact ⟨_, rfl, rfl, rfl⟩

/-- white-space collapsing is a normal form: collapsing twice changes nothing more (message ids are stable) -/
theorem collapse_go_idem : ∀ (n m : Nat) (s : Str) (w : Bool), s.length < n → (collapseWsStr.go n s w).length < m →
    collapseWsStr.go m (collapseWsStr.go n s w) w = collapseWsStr.go n s w := by
  intro n
  induction n with
  | zero => intro m s w h; omega
  | succ n ih =>
    intro m s w hn hm
    cases s with
    | nil => cases m <;> simp [collapseWsStr.go]
    | cons c r =>
      have hr : r.length < n := by simp at hn; omega
      cases m with
      | zero => omega
      | succ m =>
        by_cases hc : Tok.isWs c = true
        · cases w
          · simp only [collapseWsStr.go, hc, if_true, Bool.false_eq_true, if_false] at hm ⊢
            have h32 : Tok.isWs 32 = true := by decide +kernel
            simp only [List.length_cons] at hm
            simp only [h32, if_true]
            rw [ih m r true hr (by omega)]
          · simp only [collapseWsStr.go, hc, if_true] at hm ⊢
            have := ih (m + 1) r true hr hm
            exact this
        · have hc' : Tok.isWs c = false := by simpa using hc
          simp only [collapseWsStr.go, hc', Bool.false_eq_true, if_false, List.length_cons] at hm ⊢
          rw [ih m r false hr (by omega)]

theorem C10_collapse_idempotent (s : Str) : collapseWsStr (collapseWsStr s) = collapseWsStr s := by
  unfold collapseWsStr
  exact collapse_go_idem _ _ s false (by omega) (by omega)

/-- `i18n:domain` is in force exactly inside its element: the frame's domain is `d` while the body is evaluated and is
put back afterwards (when the body does not raise) -/
theorem C10_domain_restored (cfg : ECfg) (al : List (Str × Val)) (f : Nat) (d : Str) (node : Node) (s s2 : RState)
    (fr fr2 : Frame) (frs frs2 : List Frame) (hf : s.env.frames = fr :: frs)
    (hb : eval cfg al f node { s with env := { s.env with frames := { fr with domain := some d } :: frs } } = .ok () s2)
    (h2 : s2.env.frames = fr2 :: frs2) :
    ∃ s3, eval cfg al (f + 1) (.domain d node) s = .ok () s3 ∧
      s3.env.frames = { fr2 with domain := fr.domain } :: frs2 := by
  simp only [eval, bind, mGet, modFrame, modEnv, mModify, hf, hb, Env.topFrame, List.headD_cons, h2]
  exact ⟨_, rfl, rfl⟩

end ChamVerif
