import ChamVerif.Tal
import ChamProofs.Props.C11
import ChamProofs.ListLemmas
/-! # C07 — `;;` escapes in statement lists (`tal.split_parts`)

A `tal:attributes` / `tal:define` clause is a list of statements separated by `;`; a `;` that belongs to a statement is
written doubled.  `C07_statement_list_roundtrip`: for every list of statements — whatever semicolons they hold in the
middle or at the end; only the first may also start with one (`StartsOk`: a later statement starts with something else, as a
name does) — writing each with its semicolons doubled and joining with `;` (with or without a trailing
`;`) is split back by the model of `split_parts` into exactly those statements.  In particular an escape that stands
directly next to a separator (`a;;;b`, `a;;;;;b`, `a;;;`) is read as the escape first. -/
namespace ChamVerif.C07Semi
open ChamVerif

/-- write a statement: double every semicolon -/
def escF : Str → Str
  | [] => []
  | c :: r => if c = 59 then 59 :: 59 :: escF r else c :: escF r

/-- join written statements with `;` -/
def joinParts : List Str → Str
  | [] => []
  | [p] => escF p
  | p :: q :: rest => escF p ++ 59 :: joinParts (q :: rest)

/-- `arg.replace(';;', '\0')`, structurally -/
def rep2 : Str → Str
  | [] => []
  | [c] => [c]
  | c :: d :: r => if c = 59 ∧ d = 59 then 0 :: rep2 r else c :: rep2 (d :: r)

/-- `p.replace('\0', ';')`, structurally -/
def unz (p : Str) : Str := p.map (fun c => if c = 0 then 59 else c)

/-- a statement with its semicolons turned into the placeholder -/
def zed (p : Str) : Str := p.map (fun c => if c = 59 then 0 else c)

theorem replaceAll_semis : ∀ (f : Nat) (s : Str), s.length < f → replaceAll [59, 59] [0] f s = rep2 s := by
  intro f
  induction f with
  | zero => intro s h; omega
  | succ f ih =>
    intro s h
    match s with
    | [] => rfl
    | [c] => cases f <;> simp [replaceAll, rep2, List.isPrefixOf]
    | c :: d :: r =>
      have ih1 := ih (d :: r) (by simpa using h)
      have ih2 := ih r (by simp only [List.length_cons] at h; omega)
      rw [replaceAll, rep2]
      by_cases hc : c = 59 <;> by_cases hd : d = 59 <;> simp_all [List.isPrefixOf, eq_comm (a := (59 : Nat))]

theorem replaceAll_single (a b : Nat) : ∀ (f : Nat) (s : Str), s.length < f →
    replaceAll [a] [b] f s = s.map (fun c => if c = a then b else c) := by
  intro f
  induction f with
  | zero => intro s h; omega
  | succ f ih =>
    intro s h
    cases s with
    | nil => rfl
    | cons c r =>
      have ihr := ih r (by simpa using h)
      rw [replaceAll]
      by_cases hc : c = a
      · simp [List.isPrefixOf, hc, ihr]
      · simp [List.isPrefixOf, hc, Ne.symm hc, ihr]

theorem replaceAll_nul : ∀ (f : Nat) (s : Str), s.length < f → replaceAll [0] [59] f s = unz s :=
  replaceAll_single 0 59

theorem rep2_cons (c : Nat) (X : Str) (h : c = 59 → X.head? ≠ some 59) : rep2 (c :: X) = c :: rep2 X := by
  cases X with
  | nil => rfl
  | cons d r =>
    have : ¬(c = 59 ∧ d = 59) := fun ⟨hc, hd⟩ => h hc (by rw [hd]; rfl)
    simp [rep2, this]

/-- a separator that is not followed by another semicolon stays a separator -/
theorem rep2_sep (X : Str) (hX : X.head? ≠ some 59) : rep2 (59 :: X) = 59 :: rep2 X :=
  rep2_cons 59 X (fun _ => hX)

/-- a written statement is read back with its semicolons as placeholders, whatever follows it -/
theorem rep2_escF (p R : Str) : rep2 (escF p ++ R) = zed p ++ rep2 R := by
  induction p with
  | nil => rfl
  | cons c r ih =>
    by_cases hc : c = 59
    · subst hc
      simp only [escF, if_true, List.cons_append, rep2, and_self, zed, List.map_cons]
      rw [ih]
      rfl
    · simp only [escF, hc, if_false, List.cons_append, zed, List.map_cons]
      rw [rep2_cons _ _ (fun h => absurd h hc), ih]
      rfl

theorem zed_no_semi (p : Str) : 59 ∉ zed p := by
  intro h
  obtain ⟨c, _, hc⟩ := List.mem_map.mp h
  split at hc <;> omega

theorem unz_zed (p : Str) (h0 : 0 ∉ p) : unz (zed p) = p := by
  rw [unz, zed, List.map_map]
  refine List.map_eq_self fun c hc => ?_
  have : c ≠ 0 := fun h => h0 (h ▸ hc)
  simp only [Function.comp]
  split <;> simp_all

/-- the string-level core of `split_parts` -/
def splitStrs (s : Str) : List Str :=
  (Tok.splitOn1 59 (replaceAll [59, 59] [0] (s.length + 1) s)).map (fun p => replaceAll [0] [59] (p.length + 1) p)

theorem splitStrs_eq (s : Str) : splitStrs s = (Tok.splitOn1 59 (rep2 s)).map unz := by
  unfold splitStrs
  rw [replaceAll_semis _ _ (by omega)]
  apply List.map_congr_left
  intro p _
  exact replaceAll_nul _ _ (by omega)

/-- every statement after the first starts with something that is not a semicolon (it starts with a name) -/
def StartsOk (ps : List Str) : Prop := ∀ q ∈ ps, ∃ c r, q = c :: r ∧ c ≠ 59

theorem rep2_join : ∀ (ps : List Str) (p : Str) (T : Str), StartsOk ps → (T = [] ∨ T = [59]) →
    Tok.splitOn1 59 (rep2 (joinParts (p :: ps) ++ T)) = (p :: ps).map zed ++ (if T = [] then [] else [[]]) := by
  intro ps
  induction ps with
  | nil =>
    intro p T _ hT
    simp only [joinParts, List.map_cons, List.map_nil]
    rw [rep2_escF, splitOn1_eq]
    rcases hT with rfl | rfl
    · simp [rep2, List.splitOn_eq_singleton (zed_no_semi p)]
    · simp [rep2, List.splitOn_append_cons_self_of_not_mem (zed_no_semi p)]
  | cons q rest ih =>
    intro p T hs hT
    -- the next statement starts with a name, so the `;` before it is not taken for half of an escape
    have hq : (joinParts (q :: rest) ++ T).head? ≠ some 59 := by
      obtain ⟨c, r, rfl, hc⟩ := hs q (by simp)
      cases rest <;> simp [joinParts, escF, hc]
    have hs' : StartsOk rest := fun x hx => hs x (by simp [hx])
    simp only [joinParts, List.append_assoc, List.cons_append]
    rw [rep2_escF, rep2_sep _ hq, splitOn1_eq,
      List.splitOn_append_cons_self_of_not_mem (zed_no_semi p), ← splitOn1_eq, ih q T hs' hT]
    simp

/-- **C07 (`;;` is read as an escape first, at the string level)** -/
theorem splitStrs_join (p : Str) (ps : List Str) (T : Str) (h0 : ∀ x ∈ p :: ps, 0 ∉ x) (hs : StartsOk ps)
    (hT : T = [] ∨ T = [59]) :
    splitStrs (joinParts (p :: ps) ++ T) = (p :: ps) ++ (if T = [] then [] else [[]]) := by
  rw [splitStrs_eq, rep2_join ps p T hs hT, List.map_append, List.map_map]
  congr 1
  · exact List.map_eq_self fun x hx => unz_zed x (h0 x hx)
  · rcases hT with rfl | rfl <;> simp [unz]

/-- a part that `split_parts` deletes when it is the last of several: nothing but white space -/
def blank (l : Str) : Bool := ((l.dropWhile Tok.isWs).reverse.dropWhile Tok.isWs).reverse.isEmpty

theorem strip_blank (t : Tok) : (Tok.strip t).str.isEmpty = blank t.str := rfl

theorem splitParts_strs (n : Nat) : ∀ (l : List Str) (pos : Nat), (Tok.splitParts n pos l).map (·.str) = l
  | [], _ => rfl
  | p :: ps, pos => by rw [Tok.splitParts, List.map_cons, splitParts_strs n ps]

/-- what the model of `split_parts` returns, as strings, for a clause without character entities -/
theorem splitParts_strs_eq (rx : Rx) (q : Quirks) (arg : Tok) (hent : insertSemis rx (arg.str.length + 1) arg.str 0 = arg.str) :
    (splitParts rx q arg).map (·.str) =
      (match (splitStrs arg.str).getLast? with
       | some l => if (splitStrs arg.str).length > 1 && blank l then (splitStrs arg.str).dropLast else splitStrs arg.str
       | none => splitStrs arg.str) := by
  have hparts : ((Tok.split (!q.splitIgnoresSep) 59 (Tok.replace [59, 59] [0] { arg with str := arg.str })).map
      (Tok.replace [0] [59])).map (·.str) = splitStrs arg.str := by
    simp only [Tok.split, Tok.replace, List.map_map, splitStrs]
    have hcomp : ((fun (x : Tok) => x.str) ∘ Tok.replace [0] [59]) =
        ((fun p => replaceAll [0] [59] (p.length + 1) p) ∘ fun (t : Tok) => t.str) := by
      funext t; rfl
    rw [hcomp, ← List.map_map, splitParts_strs]
  unfold splitParts
  simp only [hent]
  generalize hP : (Tok.split (!q.splitIgnoresSep) 59 (Tok.replace [59, 59] [0] { arg with str := arg.str })).map
      (Tok.replace [0] [59]) = P at hparts
  rw [← hparts]
  cases hl : P.getLast? with
  | none =>
    have : P = [] := List.getLast?_eq_none_iff.mp hl
    simp [this]
  | some l =>
    have hlast : (P.map (·.str)).getLast? = some l.str := by simp [List.getLast?_map, hl]
    simp only [hlast, List.length_map]
    rw [← strip_blank l]
    by_cases hc : (decide (P.length > 1) && (Tok.strip l).str.isEmpty) = true
    · rw [if_pos hc, if_pos hc, List.map_dropLast]
    · rw [if_neg hc, if_neg hc]

/-- **C07 (statement lists round-trip through `split_parts`)**: statements `p :: ps` (no NUL character; each one after
the first starts with something other than `;`, as every statement that starts with a name does; the last one is not
blank), written with their semicolons doubled, joined by `;`, with or without a trailing `;`, and free of character
entities, are split by the model of `split_parts` into exactly `p :: ps`. -/
theorem C07_statement_list_roundtrip (rx : Rx) (q : Quirks) (pos : Nat) (p : Str) (ps : List Str) (T : Str)
    (h0 : ∀ x ∈ p :: ps, 0 ∉ x) (hs : StartsOk ps) (hT : T = [] ∨ T = [59])
    (hlast : ∀ l, (p :: ps).getLast? = some l → blank l = false)
    (hent : insertSemis rx ((joinParts (p :: ps) ++ T).length + 1) (joinParts (p :: ps) ++ T) 0 = joinParts (p :: ps) ++ T) :
    (splitParts rx q { str := joinParts (p :: ps) ++ T, pos := pos }).map (·.str) = p :: ps := by
  rw [splitParts_strs_eq rx q _ hent]
  simp only
  rw [splitStrs_join p ps T h0 hs hT]
  rcases hT with rfl | rfl
  · simp only [if_true, List.append_nil]
    cases hl : (p :: ps).getLast? with
    | none => rfl
    | some l => simp [hlast l hl]
  · simp only [List.cons_ne_nil, if_false]
    have : ((p :: ps) ++ [[]]).getLast? = some ([] : Str) := List.getLast?_concat
    rw [this]
    have hb : blank [] = true := rfl
    have hd : ((p :: ps) ++ [[]]).dropLast = p :: ps := List.dropLast_concat
    simp only [List.length_append, List.length_cons, List.length_nil, hb, Bool.and_true]
    rw [hd]
    simp

/-- the premises are satisfiable, and the escape next to a separator is what is exercised: `a;` and `b` written `a;;;b` -/
example : joinParts [[97, 59], [98]] = [97, 59, 59, 59, 98] ∧ splitStrs [97, 59, 59, 59, 98] = [[97, 59], [98]] := by decide

end ChamVerif.C07Semi
