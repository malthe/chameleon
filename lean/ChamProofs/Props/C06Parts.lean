import ChamProofs.RM
/-! # C06 — what the parts of an interpolated text render to -/

namespace ChamVerif.C06Parts
open ChamVerif

/-- **C06 (what the parts render to)**: a literal part is copied, an expression part is replaced by the converted value of
exactly that expression, and the rest follows — `partsText` is the concatenation, in order -/
theorem C06_parts_text_lit (cfg : ECfg) (al : List (Str × Val)) (env : Env) (f : Nat) (s : Str) (rest : List IPart)
    (esc : Esc) (d : Option Str) (lf : Bool) :
    partsText cfg al env (f + 1) (.lit s :: rest) esc d lf =
      (do let b ← partsText cfg al env f rest esc d lf; pure (s ++ b)) := by
  simp only [partsText, bind, pure]

theorem C06_parts_text_expr (cfg : ECfg) (al : List (Str × Val)) (env : Env) (f : Nat) (e : TExpr) (tok : Tok) (text : Str)
    (rest : List IPart) (esc : Esc) (d : Option Str) (lf : Bool) :
    partsText cfg al env (f + 1) (.expr e tok text :: rest) esc d lf =
      (do xSetToken tok
          let v ← evalT cfg al env f e esc d
          let t ← convPartX cfg env esc d lf v
          let b ← partsText cfg al env f rest esc d lf
          pure (t.getD [] ++ b)) := by
  simp only [partsText, bind, pure]

theorem partsText_nil (cfg : ECfg) (al : List (Str × Val)) (env : Env) (f : Nat) (esc : Esc) (d : Option Str) (lf : Bool) :
    partsText cfg al env (f + 1) [] esc d lf = pure [] := by
  simp only [partsText]

/-- **C06 (what `text ${e} text` renders to)**: the three parts render to the first literal, the converted value of the
expression — evaluated once, with `__token` set to it first — and the second literal, concatenated -/
theorem C06_three_parts_render (cfg : ECfg) (al : List (Str × Val)) (env : Env) (f : Nat) (pre post : Str) (e : TExpr) (tok : Tok)
    (text : Str) (esc : Esc) (d : Option Str) (lf : Bool) :
    partsText cfg al env (f + 4) [.lit pre, .expr e tok text, .lit post] esc d lf =
      (do xSetToken tok
          let v ← evalT cfg al env (f + 2) e esc d
          let t ← convPartX cfg env esc d lf v
          pure (pre ++ (t.getD [] ++ (post ++ [])))) := by
  rw [C06_parts_text_lit, C06_parts_text_expr, C06_parts_text_lit, partsText_nil]
  simp only [bind_assoc, pure_bind]

/-- **C06 (the value of an interpolated text)**: when the Interpolator splits the text of an interpolation node into
`pre`, the expression `e` and `post` (`C06_text_expr_text`), the node's value is `pre ++ value ++ post`, where `value` is the
converted value of `e`, evaluated once with `__token` pointing at it (no implicit translation) -/
theorem C06_interp_value (cfg : ECfg) (al : List (Str × Val)) (env : Env) (f : Nat) (tok tokE : Tok) (pre post text : Str) (te : TExpr)
    (esc : Esc) (d : Option Str)
    (hparts : compileInterp cfg.tc 64 tok true cfg.tc.decodeInterp = .ok [.lit pre, .expr te tokE text, .lit post]) :
    evalEN cfg al env (f + 1) (.interp tok esc d true true false) =
      (do xSetToken tok
          xSetToken tokE
          let v ← evalT cfg al env 61 te esc d
          let t ← convPartX cfg env esc d true v
          pure (Val.str (pre ++ (t.getD [] ++ (post ++ []))))) := by
  -- `evalEN` gives `evalParts` the fixed fuel 64: `partsText` runs with 63 = 59 + 4, and after the literal before the
  -- expression and the expression part itself `evalT` gets 61
  simp only [evalEN, hparts, Bool.false_and, Bool.false_eq_true, if_false, evalParts,
    C06_three_parts_render cfg al env 59 pre post te tokE text esc d true, bind_assoc, pure_bind]
  rfl

/-- a string value inserted at a site: escaped for that site, and nothing is offered to the translation function -/
theorem convPartX_str (cfg : ECfg) (env : Env) (site : Site) (esc : Esc) (d : Option Str) (lf : Bool) (s : Str) (x : XState)
    (hesc : escQ esc = some (site.q, site.qe)) (hlf : lf = true ∨ s ≠ []) :
    convPartX cfg env esc d lf (.str s) x = .ok (some (site.quote s)) x := by
  have he : (esc == Esc.emptyQ) = false := beq_eq_false_iff_ne.mpr (by rintro rfl; simp [escQ] at hesc)
  have hct : convertTextX cfg env esc d (.str s) x = .ok (some (site.quote s)) x := by
    simp only [convertTextX, he, Bool.false_eq_true, if_false, bind, offerCall, toQIn, pure, xLiftR, convertText, hesc, quoteVal,
      Site.quote]
  cases lf with
  | true => simp only [convPartX, if_true, hct]
  | false =>
    have hs : s ≠ [] := by rcases hlf with h | h; exact absurd h (by simp); exact h
    have htr : Val.truthy cfg.tab (.str s) = .ok true := by
      cases s with
      | nil => exact absurd rfl hs
      | cons a r => rfl
    simp only [convPartX, Bool.false_eq_true, if_false, bind, xLiftR, htr, if_true, hct]

/-- **C06 ∘ C02 (an interpolated string is inserted escaped)**: in element text (`esc = .text`), when the expression of
`pre ${e} post` evaluates to the string `s`, the node's value is `pre ++ escape(s) ++ post` where `escape` is the text-site
escaping of C02 (`C02_no_raw`, `C02_roundtrip` speak about it) -/
theorem C06_interp_text_escaped (cfg : ECfg) (al : List (Str × Val)) (env : Env) (f : Nat) (tok tokE : Tok) (pre post text : Str) (te : TExpr)
    (s : Str) (x x1 : XState)
    (hparts : compileInterp cfg.tc 64 tok true cfg.tc.decodeInterp = .ok [.lit pre, .expr te tokE text, .lit post])
    (hev : evalT cfg al env 61 te .text none { x with token := some ((Tok.strip tokE).pos, (Tok.strip tokE).str.length) } = .ok (.str s) x1) :
    evalEN cfg al env (f + 1) (.interp tok .text none true true false) x =
      .ok (.str (pre ++ (Site.text.quote s ++ (post ++ [])))) x1 := by
  rw [C06_interp_value cfg al env f tok tokE pre post text te .text none hparts]
  simp only [bind, pure, xSetToken, hev,
    convPartX_str cfg env Site.text .text none true s x1 rfl (Or.inl rfl), Option.getD]

end ChamVerif.C06Parts
