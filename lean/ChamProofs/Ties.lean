import ChamVerif.Build
/-! # Constant tables of the model = the tables of the code (regenerated on every run)

The model spells out a few constant tables by hand (they are part of its definitions and of the statements of
theorems).  `harness/extract_tables.py` reads the same tables from the live modules into `ChamVerif.Gen` on every run;
the theorems below are then re-checked by the kernel: if the code's table changes, the tie no longer checks. -/
namespace ChamVerif

def sameSet (a b : List String) : Bool := a.all (b.contains ·) && b.all (a.contains ·)

/-- the model writes its string constants as `lit "…"`; read back as a `String` that is the literal again (the kernel
would otherwise decode and re-encode every character) -/
theorem Str.toString_ofString (s : String) : (Str.ofString s).toString = s := by
  simp only [Str.toString, Str.ofString, List.map_map, Function.comp_def, Char.ofNat_toNat, List.map_id',
    String.ofList_toList]

/-- `tal.WHITELIST`, `metal.WHITELIST`, `i18n.WHITELIST` -/
theorem tie_whitelists :
    sameSet talWhitelist Gen.talWhitelistSorted = true ∧ sameSet metalWhitelist Gen.metalWhitelistSorted = true ∧
    sameSet i18nWhitelist Gen.i18nWhitelistSorted = true := by decide +kernel

/-- `MacroProgram.DROP_NS` -/
theorem tie_dropNs : dropNs.map Str.toString = Gen.dropNs := by
  simp only [dropNs, TAL, METAL, I18N, META, lit, List.map_cons, List.map_nil, Str.toString_ofString]; rfl

/-- `MacroProgram.DEFAULT_NAMESPACES`, in dictionary order -/
theorem tie_defaultNamespaces :
    defaultNamespaces.map (fun e => ((e.1.map Str.toString).getD "", e.2.toString)) = Gen.defaultNamespaces := by
  simp only [defaultNamespaces, XML_NS, XMLNS_NS, lit, List.map_cons, List.map_nil, Option.map_some, Option.getD_some,
    Str.toString_ofString]; rfl

/-- defaults of the builder configuration -/
theorem tie_builder_defaults :
    ({} : BCfg).restrictedNamespace = Gen.restrictedNamespaceDefault ∧
    ({} : BCfg).enableCommentInterpolation = Gen.enableCommentInterpolationDefault := by decide +kernel

end ChamVerif
