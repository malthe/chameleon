import ChamVerif.Eval
/-! `RM` and `XM` are lawful monads; what `>>=` does around `if`, `pure ()`, `mGet` and in a one-element `forM`. -/
namespace ChamVerif

instance : LawfulMonad RM := LawfulMonad.mk' _
  (id_map := by intro α x; funext s; simp only [Functor.map, bind]; cases x s <;> rfl)
  (pure_bind := fun _ _ => rfl)
  (bind_assoc := by intro α β γ x f g; funext s; simp only [bind]; cases x s <;> rfl)

theorem rm_ite_bind {α β} (c : Prop) [Decidable c] (a b : RM α) (k : α → RM β) :
    (if c then a else b) >>= k = if c then a >>= k else b >>= k := by
  split <;> rfl

theorem rm_bind_pure_unit (m : RM Unit) : (m >>= fun _ => (pure () : RM Unit)) = m := by
  funext s
  simp only [bind]
  cases m s <;> rfl

theorem bind_pure_unit (m : RM Unit) (s : RState) : (m >>= fun _ => (pure () : RM Unit)) s = m s :=
  congrFun (rm_bind_pure_unit m) s

theorem mGet_bind {β} (G : RState → RM β) (s : RState) : (mGet >>= G) s = G s s := rfl

theorem forM_single {α} (f : α → RM Unit) (a : α) : [a].forM f = (f a >>= fun _ => pure ()) := rfl

theorem forM_one {α} (g : α → RM Unit) (a : α) : [a].forM g = g a := rm_bind_pure_unit _

instance : LawfulMonad XM := LawfulMonad.mk' _
  (id_map := by intro α x; funext s; simp only [Functor.map, bind]; cases x s <;> rfl)
  (pure_bind := fun _ _ => rfl)
  (bind_assoc := by intro α β γ x f g; funext s; simp only [bind]; cases x s <;> rfl)

end ChamVerif
