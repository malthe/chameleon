import ChamVerif.Spec
import ChamProofs.RM
import ChamProofs.ListLemmas
/-! # Running the interpreter one step at a time

What the theorems about single constructs share: what a scope answers after an assignment, what `>>=` does on a known
verdict, the equation of `eval` for the node kinds whose parts are evaluated separately (by `rfl`), and, for the constructs
`ChamVerif/Spec.lean` names (`onErrorOf`, `slotOf`), what they do in each of their cases.  The equation lemmas of `eval`
itself are generated here once (see `eval_define`). -/
namespace ChamVerif
open ChamVerif.Spec

/-! ## scopes: `(k, v) :: l.filter (·.1 != k)` is "set", `l.filter (·.1 != k)` is "delete" -/

theorem lookupAssoc_cons {β} (l : List (Str × β)) (k k' : Str) (v : β) :
    lookupAssoc ((k, v) :: l) k' = if k = k' then some v else lookupAssoc l k' := by
  by_cases h : k = k' <;> simp [lookupAssoc, h]

theorem lookupAssoc_filter {β} (l : List (Str × β)) (k k' : Str) :
    lookupAssoc (l.filter (·.1 != k)) k' = if k' = k then none else lookupAssoc l k' := by
  unfold lookupAssoc
  by_cases h : k' = k
  · subst h; rw [List.find?_key_filter_self]; simp
  · rw [List.find?_key_filter_ne h]; simp [h]

/-- the scope after `econtext[k] = v` -/
theorem Env.get_setOwn (e : Env) (k k' : Str) (v : Val) :
    ({ e with own := (k, v) :: e.own.filter (·.1 != k) } : Env).get k' = if k' = k then some v else e.get k' := by
  by_cases h : k' = k
  · simp [Env.get, lookupAssoc_cons, h]
  · simp only [Env.get, lookupAssoc, List.find?_key_cons_filter_ne h, if_neg h]

/-- the scope after `del econtext[k]`: the root dictionary shows through -/
theorem Env.get_delOwn (e : Env) (k k' : Str) :
    ({ e with own := e.own.filter (·.1 != k) } : Env).get k' = if k' = k then lookupAssoc e.root k' else e.get k' := by
  by_cases h : k' = k <;> simp [Env.get, lookupAssoc_filter, h]

section bind
variable {α β : Type} {m : RM α} {k : α → RM β} {s s' : RState}

theorem RM.bind_ok {a : α} {s1 : RState} (h : m s = .ok a s1) : (m >>= k) s = k a s1 := by
  simp only [bind, h]

theorem RM.bind_eq_ok {b : β} : (m >>= k) s = .ok b s' ↔ ∃ a s1, m s = .ok a s1 ∧ k a s1 = .ok b s' := by
  cases hm : m s with
  | ok a s1 =>
    simp only [bind, hm]
    exact ⟨fun h => ⟨a, s1, rfl, h⟩, fun ⟨_, _, h1, h2⟩ => by cases h1; exact h2⟩
  | raised e s1 => simp [bind, hm]
  | unsupported w => simp [bind, hm]

end bind

theorem liftX_ok {α} {m : Env → XM α} {s s' : RState} {a : α} (h : liftX m s = .ok a s') : ∃ x', s' = { s with x := x' } := by
  unfold liftX at h
  cases hm : m s.env s.x <;> rw [hm] at h <;> cases h
  exact ⟨_, rfl⟩

theorem topFrame_of_head? {e : Env} {fr : Frame} (h : e.frames.head? = some fr) : e.topFrame = fr := by
  cases hf : e.frames <;> simp_all [Env.topFrame]

theorem modFrame_ok (f : Frame → Frame) (s : RState) (fr : Frame) (frs : List Frame) (h : s.env.frames = fr :: frs) :
    modFrame f s = .ok () { s with env := { s.env with frames := f fr :: frs } } := by
  simp [modFrame, modEnv, mModify, h]

theorem restore_nil : restore [] = (pure () : RM Unit) := rfl

theorem enVal_marker_eq (cfg : ECfg) (al : List (Str × Val)) : enVal cfg al .marker = (pure Val.dflt : RM Val) := rfl

section eqs
variable (cfg : ECfg) (al : List (Str × Val)) (f : Nat)

theorem eval_condition (c : CondE) (n : Node) (o : Option Node) :
    eval cfg al (f + 1) (.condition c n o) = (do
      let v ← liftX (fun env => evalCond cfg al env 16 c)
      let b ← vTruthy cfg v
      if b then eval cfg al f n else match o with | some o => eval cfg al f o | none => pure ()) := rfl

theorem eval_cache (es : List (Nat × EN)) (n : Node) :
    eval cfg al (f + 1) (.cache es n) =
      (es.forM (fun (p : Nat × EN) => enVal cfg al p.2 >>= setCache p.1) >>= fun _ => eval cfg al f n) := rfl

/-- (by `simp`, not `rfl`: this generates the equation lemmas of `eval` here; a module that does not find them in its
imports generates them again in every declaration that unfolds `eval`) -/
theorem eval_define (as : List Assign) (n : Node) : eval cfg al (f + 1) (.define as n) = evalDefine cfg al f as n [] := by
  simp only [eval]

theorem evalDefine_nil (n : Node) (bk : List (Str × Option Val)) :
    evalDefine cfg al (f + 1) [] n bk = (eval cfg al f n >>= fun _ => restore bk) := rfl

theorem evalDefine_alias (name : Str) (e : EN) (rest : List Assign) (n : Node) (bk : List (Str × Option Val)) :
    evalDefine cfg al (f + 1) (.alias name e :: rest) n bk =
      (enVal cfg al e >>= fun v => evalDefine cfg ((name, v) :: al) f rest n bk) := rfl

theorem eval_onError (id : Nat) (fb n : Node) :
    eval cfg al (f + 1) (.onError id fb n) = onErrorOf cfg id (eval cfg al f fb) (eval cfg al f n) := rfl

theorem eval_defineSlot (nm : Tok) (n : Node) :
    eval cfg al (f + 1) (.defineSlot nm n) = slotOf cfg f (some nm) (eval cfg al f n) := rfl

end eqs

/-- the state in which the element guarded by `tal:on-error` runs (its saved length is recorded in the frame) -/
def onErrorEnter (id : Nat) (s : RState) : RState :=
  { s with env := match s.env.frames with
    | fr :: rest => { s.env with frames := { fr with saved := (id, (s.streams.headD []).length) :: fr.saved.filter (·.1 != id) } :: rest }
    | [] => s.env }

section onError
variable (cfg : ECfg) (id : Nat) (fb k : RM Unit) (s : RState)

/-- the saved length is kept per node, or (quirk D-13a) in one variable per function: key 0 -/
theorem onErrorOf_eq : onErrorOf cfg id fb k s =
    match k (onErrorEnter (if cfg.tc.q.sharedFallbackVar then 0 else id) s) with
    | .ok () s' => .ok () s'
    | .unsupported w => .unsupported w
    | .raised ex s' =>
      if !isSubclass cfg ex.cls ["Exception"] then .raised ex s'
      else match onErrorHandle cfg (if cfg.tc.q.sharedFallbackVar then 0 else id) s.streams.length (s.streams.headD []).length ex s' with
        | none => .unsupported "unreachable: the handler always runs"
        | some s2 => fb { s2 with tmaps := s2.tmaps.drop (s2.tmaps.length - s.tmaps.length),
                                  errs := s2.errs.extract 0 s.errs.size } := rfl

-- the key as a variable: callers `generalize` the `if` once and case on what the element does
variable {key : Nat} (hk : (if cfg.tc.q.sharedFallbackVar then 0 else id) = key)
include hk

theorem onErrorOf_ok {s' : RState} (h : k (onErrorEnter key s) = .ok () s') : onErrorOf cfg id fb k s = .ok () s' := by
  rw [onErrorOf_eq, hk, h]

theorem onErrorOf_unhandled {ex : Exc} {sb : RState} (h : k (onErrorEnter key s) = .raised ex sb)
    (hexc : isSubclass cfg ex.cls ["Exception"] = false) : onErrorOf cfg id fb k s = .raised ex sb := by
  rw [onErrorOf_eq, hk, h]
  simp only [hexc, Bool.not_false, if_true]

theorem onErrorOf_handled {ex : Exc} {sb s2 : RState} (h : k (onErrorEnter key s) = .raised ex sb)
    (hexc : isSubclass cfg ex.cls ["Exception"] = true)
    (ho : onErrorHandle cfg key s.streams.length (s.streams.headD []).length ex sb = some s2) :
    onErrorOf cfg id fb k s =
      fb { s2 with tmaps := s2.tmaps.drop (s2.tmaps.length - s.tmaps.length), errs := s2.errs.extract 0 s.errs.size } := by
  rw [onErrorOf_eq, hk, h]
  simp only [hexc, Bool.not_true, Bool.false_eq_true, if_false, ho]

end onError

section slot
variable (cfg : ECfg) (F : Nat) (nm : Tok) (k : RM Unit) (s : RState)

theorem slotOf_default
    (h : lookupAssoc s.env.topFrame.slotFns (mangleName nm.str) = none ∨
         lookupAssoc s.env.topFrame.slotFns (mangleName nm.str) = some none) : slotOf cfg F (some nm) k s = k s := by
  rcases h with h | h <;> simp only [slotOf, h]

theorem slotOf_unknown {cid : Nat}
    (h : lookupAssoc s.env.topFrame.slotFns (mangleName nm.str) = some (some cid)) (hc : s.closures[cid]? = none) :
    slotOf cfg F (some nm) k s = .unsupported "unknown slot closure" := by
  simp only [slotOf, h, hc]

theorem slotOf_filled {cid : Nat} {cl : Closure}
    (h : lookupAssoc s.env.topFrame.slotFns (mangleName nm.str) = some (some cid)) (hc : s.closures[cid]? = some cl) :
    slotOf cfg F (some nm) k s =
      match eval cfg cl.al F cl.node (fillerEnter cl s) with
      | .ok () s' => .ok () (fillerLeave s s')
      | .raised ex s' => .raised ex (fillerRaise s s')
      | .unsupported w => .unsupported w := by
  simp only [slotOf, h, hc]
  rfl

end slot

end ChamVerif
