import ChamProofs.Inv
import ChamProofs.Props.C13
/-! # Rendering only appends to the output

`Good m`: started with the output stack `top :: rest`, the computation `m` ends — normally or by raising — with
`top` extended at its end and `rest` untouched; when it raises there may be unfinished sub-streams (`extra`) on top.
The interpreter as a whole is `Good` (`good_all`): nothing that was already emitted is ever changed. -/
namespace ChamVerif.Out
open ChamVerif StepRel

/-- the computation never touches the output stack -/
def Keeps {α} (m : RM α) : Prop :=
  ∀ s, (∀ a s', m s = .ok a s' → s'.streams = s.streams) ∧ (∀ e s', m s = .raised e s' → s'.streams = s.streams)

def GoodAt {α} (m : RM α) (s : RState) : Prop :=
  ∀ top rest, s.streams = top :: rest →
    (∀ a s', m s = .ok a s' → ∃ δ, s'.streams = (top ++ δ) :: rest) ∧
    (∀ e s', m s = .raised e s' → ∃ extra δ, s'.streams = extra ++ (top ++ δ) :: rest)

structure Good {α} (m : RM α) : Prop where
  at_ : ∀ s, GoodAt m s

theorem keeps_setGlobal (k : Str) (v : Val) : Keeps (setGlobal k v) :=
  fun _ => ⟨fun _ _ h => (by cases h; rfl), fun _ _ h => (by cases h)⟩

def rel : StepRel where
  R s s' := ∀ top rest, s.streams = top :: rest → ∃ δ, s'.streams = (top ++ δ) :: rest
  E s s' := ∀ top rest, s.streams = top :: rest → ∃ extra δ, s'.streams = extra ++ (top ++ δ) :: rest
  refl _ _ _ h := ⟨[], by simp [h]⟩
  reflE _ _ _ h := ⟨[], [], by simp [h]⟩
  trans h₁ h₂ top rest hs := by
    obtain ⟨δ, hδ⟩ := h₁ top rest hs
    obtain ⟨δ', hδ'⟩ := h₂ _ _ hδ
    exact ⟨δ ++ δ', by simp [hδ']⟩
  transE h₁ h₂ top rest hs := by
    obtain ⟨δ, hδ⟩ := h₁ top rest hs
    obtain ⟨extra, δ', hδ'⟩ := h₂ _ _ hδ
    exact ⟨extra, δ ++ δ', by simp [hδ']⟩

theorem good_iff {α} {m : RM α} : Good m ↔ rel.Tri m :=
  ⟨fun h => ⟨fun s => ⟨fun a s' hm top rest hs => (h.at_ s top rest hs).1 a s' hm,
      fun e s' hm top rest hs => (h.at_ s top rest hs).2 e s' hm⟩⟩,
   fun h => ⟨fun s top rest hs => ⟨fun a s' hm => (h.at_ s).1 a s' hm top rest hs,
      fun e s' hm => (h.at_ s).2 e s' hm top rest hs⟩⟩⟩

theorem rel_of_streams {s s' : RState} (h : s'.streams = s.streams) : rel.R s s' ∧ rel.E s s' :=
  ⟨fun top rest hs => ⟨[], by simp [h, hs]⟩, fun top rest hs => ⟨[], [], by simp [h, hs]⟩⟩

/-- a sub-stream: what `body` writes goes to the new stream, which `popStream` takes off again; if `body` raises, the
new stream stays on top as one more unfinished sub-stream -/
theorem bracket {β} (body : RM Unit) (k : Str → RM β) (hb : rel.Tri body) (hk : ∀ v, rel.Tri (k v)) :
    rel.Tri (pushStream >>= fun _ => body >>= fun _ => popStream >>= k) := by
  refine ⟨fun s => ?_⟩
  have h0 : (pushStream >>= fun _ => body >>= fun _ => popStream >>= k) s =
      (body >>= fun _ => popStream >>= k) { s with streams := [] :: s.streams } := RM.bind_ok rfl
  obtain ⟨hb1, hb2⟩ := hb.at_ { s with streams := [] :: s.streams }
  cases hr : body { s with streams := [] :: s.streams } with
  | unsupported w => exact At.unsupported (w := w) (by rw [h0]; simp only [bind, hr])
  | raised e s1 =>
    refine At.raised (e := e) (s' := s1) (by rw [h0]; simp only [bind, hr]) fun top rest hs => ?_
    obtain ⟨extra, δ, hδ⟩ := hb2 _ _ hr [] (top :: rest) (by simp [hs])
    exact ⟨extra ++ [[] ++ δ], [], by rw [hδ]; simp⟩
  | ok u s1 =>
    -- what `body` wrote is the popped stream; `k` goes on with the stack as it was
    have key : ∀ top rest, s.streams = top :: rest → ∃ δ,
        (pushStream >>= fun _ => body >>= fun _ => popStream >>= k) s = k δ { s1 with streams := top :: rest } := by
      intro top rest hs
      obtain ⟨δ, hδ⟩ := hb1 u s1 hr [] (top :: rest) (by simp [hs])
      exact ⟨[] ++ δ, by rw [h0, RM.bind_ok hr]; exact RM.bind_ok (by unfold popStream; rw [hδ])⟩
    constructor
    · intro b s' h top rest hs
      obtain ⟨δ, hδ⟩ := key top rest hs
      exact ((hk δ).at_ _).1 b s' (hδ ▸ h) top rest rfl
    · intro e s' h top rest hs
      obtain ⟨δ, hδ⟩ := key top rest hs
      exact ((hk δ).at_ _).2 e s' (hδ ▸ h) top rest rfl

theorem macroEnter_streams (tid : Nat) (body : Node) (s : RState) : (macroEnter tid body s).streams = s.streams := by
  simp [macroEnter]

/-- callees write to the caller's stream; the `tal:on-error` handler cuts it back to where the element began
(`C13_handler_exact`, for the per-node saved length) -/
def inv (cfg : ECfg) (hq : cfg.tc.q.sharedFallbackVar = false) : EvalInv cfg where
  toStepRel := rel
  H _ := True
  kids _ _ _ _ := trivial
  quiet h := rel_of_streams h.1
  emit t := Tri.modify _ (fun s top rest hs => ⟨t, by simp [hs]⟩)
  bracket := bracket
  setting setF restoreF body k s _ hb hk :=
    (Tri.setting_of (fun _ _ => (rel_of_streams rfl).1) setF restoreF body k hb hk).at_ s
  macroCall tid body m hm := Tri.callee m _ _ _
    (fun s s' h top rest hs => ((hm fun _ => trivial).at_ _).1 _ _ h top rest (by rw [macroEnter_streams]; exact hs))
    (fun s e s' h top rest hs => ((hm fun _ => trivial).at_ _).2 _ _ h top rest (by rw [macroEnter_streams]; exact hs))
  fillerCall cl m hm := Tri.callee m _ _ _
    (fun s s' h top rest hs => ((hm fun _ => trivial).at_ _).1 _ _ h top rest hs)
    (fun s e s' h top rest hs => ((hm fun _ => trivial).at_ _).2 _ _ h top rest hs)
  handler _ _ _ _ key s ex sb s2 tm er hE ho top rest hs := by
    obtain ⟨extra, δ, hδ⟩ := hE top rest hs
    rw [hs] at ho
    have := (C13_handler_exact cfg hq key top δ rest extra ex sb s2 hδ (by simpa [Nat.add_comm] using ho)).1
    exact ⟨[], by simp [this]⟩

end ChamVerif.Out

namespace ChamVerif
open ChamVerif.Out StepRel

theorem good_pure' {α} (a : α) : Good (pure a : RM α) := good_iff.2 (Tri.pure a)

theorem good_all (cfg : ECfg) (hq : cfg.tc.q.sharedFallbackVar = false) : ∀ f,
    (∀ al node, Good (eval cfg al f node)) ∧ (∀ al ns, Good (evalList cfg al f ns)) ∧
    (∀ al as node bk, Good (evalDefine cfg al f as node bk)) ∧
    (∀ al key names loc ws node items rem, Good (evalRepeat cfg al f key names loc ws node items rem)) := by
  intro f
  obtain ⟨hE, hL, hD, hR⟩ := (inv cfg hq).all f
  exact ⟨fun al n => good_iff.2 (hE al n trivial), fun al ns => good_iff.2 (hL al ns (fun _ _ => trivial)),
    fun al as n bk => good_iff.2 (hD al as n bk trivial),
    fun al key names loc ws n items rem => good_iff.2 (hR al key names loc ws n items rem trivial)⟩

end ChamVerif
