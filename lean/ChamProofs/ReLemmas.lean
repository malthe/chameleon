import ChamVerif.Re
/-! Lemma library for the backtracking regex semantics (`ChamVerif/Re.lean`). -/
namespace ChamVerif

/-- a continuation-passing matcher only moves forward -/
def Mono {α} (m : M α) : Prop :=
  ∀ st k v, m st k = some v → ∃ st', st'.pos ≥ st.pos ∧ k st' = some v

/-- consume one character that satisfies `p`: what `chr`, `cls` and `any` do -/
def one {α} (s : Array Nat) (p : Nat → Bool) : M α := fun st k =>
  match s[st.pos]? with
  | some x => if p x then k { st with pos := st.pos + 1 } else none
  | none => none

theorem den_chr {α} (u : Uni) (s : Array Nat) (c : Nat) : den (α := α) u s (.chr c) = one s (· == c) := by
  funext st k; by_cases h : st.pos < s.size <;> simp [den, one, h]
theorem den_cls {α} (u : Uni) (s : Array Nat) (neg : Bool) (items : List ClsItem) :
    den (α := α) u s (.cls neg items) = one s (fun x => items.any (itemMem u x) != neg) := by
  funext st k; by_cases h : st.pos < s.size <;> simp [den, one, h]
theorem den_any {α} (u : Uni) (s : Array Nat) (d : Bool) : den (α := α) u s (.any d) = one s (fun x => d || x != 10) := by
  funext st k; by_cases h : st.pos < s.size <;> simp [den, one, h]
theorem den_alt {α} (u : Uni) (s : Array Nat) (a b : Re) (st : St) (k : K α) :
    den u s (.alt a b) st k = (den u s a st k <|> den u s b st k) := rfl
theorem den_seq {α} (u : Uni) (s : Array Nat) (a b : Re) (st : St) (k : K α) :
    den u s (.seq a b) st k = den u s a st (fun st' => den u s b st' k) := rfl
theorem den_rep {α} (u : Uni) (s : Array Nat) (g : Bool) (mn : Nat) (mx : Option Nat) (r : Re) (st : St) (k : K α) :
    den u s (.rep g mn mx r) st k = repM g (den u s r) mn mx (s.size - st.pos + mn + 1) 0 st k := rfl
theorem den_grp {α} (u : Uni) (s : Array Nat) (i : Nat) (r : Re) (st : St) (k : K α) :
    den u s (.grp i r) st k = den u s r st (fun st' => k { st' with caps := (i, st.pos, st'.pos) :: st'.caps }) := rfl

/-- a matcher calls its continuation only at a position between where it started and `n` (the end of the subject) -/
def Within {α} (n : Nat) (m : M α) : Prop :=
  ∀ st k v, m st k = some v → ∃ st', st.pos ≤ st'.pos ∧ (st.pos ≤ n → st'.pos ≤ n) ∧ k st' = some v

theorem Within.refl {α} {n : Nat} {st : St} {k : K α} {v : α} (h : k st = some v) :
    ∃ st', st.pos ≤ st'.pos ∧ (st.pos ≤ n → st'.pos ≤ n) ∧ k st' = some v := ⟨st, Nat.le_refl _, id, h⟩

theorem one_within {α} (s : Array Nat) (p : Nat → Bool) : Within (α := α) s.size (one s p) := by
  intro st k v h
  unfold one at h
  split at h
  · rename_i x hx
    have := (Array.getElem?_eq_some_iff.mp hx).1
    split at h
    · exact ⟨{ st with pos := st.pos + 1 }, Nat.le_succ _, fun _ => this, h⟩
    · cases h
  · cases h

theorem repM_within {α} {n : Nat} (g : Bool) (body : M α) (mn : Nat) (mx : Option Nat) (hb : Within n body)
    (fuel : Nat) : ∀ (cnt : Nat), Within n (repM g body mn mx fuel cnt) := by
  induction fuel with
  | zero => intro cnt st k v h; exact Within.refl h
  | succ f ih =>
    intro cnt st k v h
    have hmore : ∀ v, repMore body mn mx cnt st (fun st' => repM g body mn mx f (cnt+1) st' k) = some v →
        ∃ st', st.pos ≤ st'.pos ∧ (st.pos ≤ n → st'.pos ≤ n) ∧ k st' = some v := by
      intro v hv
      unfold repMore at hv
      split at hv
      · obtain ⟨st1, h1, h1', h2⟩ := hb _ _ _ hv
        split at h2
        · obtain ⟨st2, h3, h3', h4⟩ := ih _ _ _ _ h2
          exact ⟨st2, Nat.le_trans h1 h3, fun hn => h3' (h1' hn), h4⟩
        · cases h2
      · cases hv
    simp only [repM] at h
    split at h
    · exact hmore v h
    · -- past the minimum: one more iteration or stop here, in the order greediness asks for
      split at h <;> simp only [Option.orElse_eq_orElse, Option.orElse_eq_or, Option.or_eq_some_iff] at h
      · exact h.elim (hmore v) fun h => Within.refl h.2
      · exact h.elim Within.refl fun h => hmore v h.2

theorem den_within {α} (u : Uni) (s : Array Nat) (r : Re) : Within s.size (den (α := α) u s r) := by
  induction r generalizing α with
  | eps => intro st k v h; exact Within.refl h
  | chr c => rw [den_chr]; exact one_within s _
  | cls neg items => rw [den_cls]; exact one_within s _
  | any d => rw [den_any]; exact one_within s _
  | seq a b iha ihb =>
    intro st k v h
    obtain ⟨st1, h1, h1', h2⟩ := iha _ _ _ h
    obtain ⟨st2, h3, h3', h4⟩ := ihb _ _ _ h2
    exact ⟨st2, Nat.le_trans h1 h3, fun hn => h3' (h1' hn), h4⟩
  | alt a b iha ihb =>
    intro st k v h
    simp only [den_alt, Option.orElse_eq_orElse, Option.orElse_eq_or, Option.or_eq_some_iff] at h
    rcases h with h | ⟨_, h⟩
    · exact iha _ _ _ h
    · exact ihb _ _ _ h
  | rep g mn mx r ih => intro st k v h; exact repM_within g _ mn mx ih _ _ st k v h
  | look behind neg r _ =>
    intro st k v h
    simp only [den] at h
    -- a look-around consumes nothing: `k` runs at `st` or not at all
    split at h <;> split at h
    · cases h
    · exact Within.refl h
    · exact Within.refl h
    · cases h
  | grp i r ih =>
    intro st k v h
    obtain ⟨st1, h1, h1', h2⟩ := ih _ _ _ h
    exact ⟨{ st1 with caps := (i, st.pos, st1.pos) :: st1.caps }, h1, h1', h2⟩
  | bref i =>
    intro st k v h
    simp only [den] at h
    split at h
    · cases h
    · split at h
      · rename_i hc
        simp only [Bool.and_eq_true, decide_eq_true_eq] at hc
        exact ⟨_, Nat.le_add_right _ _, fun _ => hc.1, h⟩
      · cases h
  | «at» kind =>
    intro st k v h
    simp only [den] at h
    split at h
    · exact Within.refl h
    · cases h

theorem den_mono {α} (u : Uni) (s : Array Nat) (r : Re) : Mono (den (α := α) u s r) := by
  intro st k v h
  obtain ⟨st', h1, _, h2⟩ := den_within u s r st k v h
  exact ⟨st', h1, h2⟩

theorem matchAt_span (u : Uni) (s : Array Nat) (r : Re) (i : Nat) (st : St)
    (h : matchAt u s r i = some st) : i ≤ st.pos ∧ (i ≤ s.size → st.pos ≤ s.size) := by
  obtain ⟨st', h1, h2, hk⟩ := den_within u s r _ _ _ h
  cases hk; exact ⟨h1, h2⟩

theorem matchAt_ge (u : Uni) (s : Array Nat) (r : Re) (i : Nat) (st : St)
    (h : matchAt u s r i = some st) : st.pos ≥ i := (matchAt_span u s r i st h).1

/-- patterns that succeed (possibly on the empty string) whenever their continuation does -/
def alwaysSucceeds : Re → Bool
  | .eps => true
  | .alt a b => alwaysSucceeds a || alwaysSucceeds b
  | .seq a b => alwaysSucceeds a && alwaysSucceeds b
  | .rep _ mn _ _ => mn == 0
  | .grp _ r => alwaysSucceeds r
  | _ => false

theorem repM_isSome {α} (g : Bool) (body : M α) (mn : Nat) (mx : Option Nat) (fuel cnt : Nat) (st : St) (k : K α)
    (hc : mn ≤ cnt) (hk : (k st).isSome) : (repM g body mn mx fuel cnt st k).isSome := by
  cases fuel with
  | zero => exact hk
  | succ f =>
    simp only [repM, if_neg (Nat.not_lt.mpr hc)]
    split <;> simp [hk]

theorem alwaysSucceeds_some {α} (u : Uni) (s : Array Nat) (r : Re) (hr : alwaysSucceeds r = true) :
    ∀ (st : St) (k : K α), (∀ st', (k st').isSome) → (den u s r st k).isSome := by
  induction r generalizing α with
  | eps => intro st k hk; exact hk st
  | alt a b iha ihb =>
    intro st k hk
    simp only [alwaysSucceeds, Bool.or_eq_true] at hr
    simp only [den_alt, Option.orElse_eq_orElse, Option.orElse_eq_or, Option.isSome_or, Bool.or_eq_true]
    exact hr.imp (iha · st k hk) (ihb · st k hk)
  | seq a b iha ihb =>
    intro st k hk
    simp only [alwaysSucceeds, Bool.and_eq_true] at hr
    exact iha hr.1 st _ (fun st' => ihb hr.2 st' k hk)
  | rep g mn mx r _ =>
    intro st k hk
    simp only [alwaysSucceeds, beq_iff_eq] at hr
    exact repM_isSome g _ mn mx _ 0 st k (Nat.le_of_eq hr) (hk st)
  | grp i r ih => intro st k hk; exact ih hr st _ (fun st' => hk _)
  | chr c => cases hr
  | cls neg items => cases hr
  | any d => cases hr
  | look b n r _ => cases hr
  | bref i => cases hr
  | «at» k => cases hr

/-- The shape of the tokenizer regex: `[^c]+ | c T` with `T` always succeeding. -/
def speShape (c : Nat) (T : Re) : Re :=
  .alt (.rep true 1 none (.cls true [.ch c])) (.seq (.chr c) T)

theorem repM_lt_min {α} (g : Bool) (body : M α) (mn : Nat) (mx : Option Nat) (fuel cnt : Nat) (st : St) (k : K α)
    (hc : cnt < mn) (hm : canMore mx cnt = true) :
    repM g body mn mx (fuel + 1) cnt st k = body st (fun st' => repM g body mn mx fuel (cnt + 1) st' k) := by
  simp [repM, repMore, hc, hm]

theorem one_some {α} {s : Array Nat} {p : Nat → Bool} {st : St} {x : Nat} (k : K α) (hx : s[st.pos]? = some x) :
    one s p st k = if p x then k { st with pos := st.pos + 1 } else none := by simp [one, hx]

theorem one_none {α} {s : Array Nat} {p : Nat → Bool} {st : St} (k : K α) (hx : s[st.pos]? = none) :
    one s p st k = none := by simp [one, hx]

theorem one_beq {α} (s : Array Nat) (c : Nat) (st : St) (k : K α) :
    one s (· == c) st k = if s[st.pos]? = some c then k { st with pos := st.pos + 1 } else none := by
  unfold one
  cases s[st.pos]? <;> simp

theorem spe_total (u : Uni) (c : Nat) (T : Re) (hT : alwaysSucceeds T = true)
    (s : Array Nat) (i : Nat) (h : i < s.size) :
    ∃ st, matchAt u s (speShape c T) i = some st ∧ st.pos > i := by
  have hi : s[i]? = some s[i] := Array.getElem?_eq_getElem h
  unfold matchAt speShape
  rw [den_alt, den_rep, den_seq, den_chr, den_cls, repM_lt_min _ _ _ _ _ _ _ _ Nat.zero_lt_one rfl,
    one_some _ hi, one_some _ hi]
  by_cases hc : s[i] = c
  · -- the text alternative fails at once; the markup alternative consumes `c`, and `T` cannot fail
    obtain ⟨v, hv⟩ := Option.isSome_iff_exists.mp
      (alwaysSucceeds_some (α := St) u s T hT { pos := i + 1, caps := [] } some (fun _ => rfl))
    obtain ⟨st', hp, _, hk⟩ := den_within u s T _ _ _ hv
    cases hk
    exact ⟨v, by rw [if_neg (by simp [itemMem, hc]), if_pos (by simp [hc]), hv]; rfl, hp⟩
  · -- the first iteration consumes `s[i]`; the minimum is reached, so the loop can stop
    obtain ⟨v, hv⟩ := Option.isSome_iff_exists.mp
      (repM_isSome (α := St) true (one s fun x => [ClsItem.ch c].any (itemMem u x) != true) 1 none (s.size - i + 1) 1
        { pos := i + 1, caps := [] } some (Nat.le_refl 1) rfl)
    obtain ⟨st', hp, _, hk⟩ := repM_within true _ 1 none (one_within s _) _ _ _ _ _ hv
    cases hk
    exact ⟨v, by rw [if_pos (by simp [itemMem, hc]), hv]; rfl, hp⟩

theorem spe_end (u : Uni) (c : Nat) (T : Re) (s : Array Nat) :
    matchAt u s (speShape c T) s.size = none := by
  have hi : s[s.size]? = none := Array.getElem?_eq_none (Nat.le_refl _)
  unfold matchAt speShape
  rw [den_alt, den_rep, den_seq, den_chr, den_cls, repM_lt_min _ _ _ _ _ _ _ _ Nat.zero_lt_one rfl,
    one_none _ hi, one_none _ hi]
  rfl

/-- a pattern is *covering* on `s` when it matches a non-empty piece at every position -/
def Covering (u : Uni) (s : Array Nat) (r : Re) : Prop :=
  ∀ i, i < s.size → ∃ st, matchAt u s r i = some st ∧ st.pos > i

theorem searchFrom_eq_some (u : Uni) (s : Array Nat) (r : Re) {a : Nat} {st : St} (has : a ≤ s.size)
    (ha : matchAt u s r a = some st) : ∀ (fuel i : Nat), i ≤ a → a - i < fuel →
      (∀ j, i ≤ j → j < a → matchAt u s r j = none) → searchFrom u s r fuel i = some (a, st) := by
  intro fuel
  induction fuel with
  | zero => intro i _ hf; omega
  | succ f ih =>
    intro i hi hf hn
    rw [searchFrom, if_neg (by omega)]
    rcases Nat.eq_or_lt_of_le hi with rfl | hlt
    · rw [ha]
    · rw [hn i (Nat.le_refl _) hlt]
      exact ih (i + 1) hlt (by omega) (fun j hj => hn j (by omega))

theorem searchFrom_eq_none (u : Uni) (s : Array Nat) (r : Re) : ∀ (fuel i : Nat),
    (∀ j, i ≤ j → j ≤ s.size → matchAt u s r j = none) → searchFrom u s r fuel i = none := by
  intro fuel
  induction fuel with
  | zero => intro i _; rfl
  | succ f ih =>
    intro i hn
    rw [searchFrom]
    split
    · rfl
    · rw [hn i (Nat.le_refl _) (by omega)]
      exact ih (i + 1) (fun j hj => hn j (by omega))

theorem search_eq_some (u : Uni) (s : Array Nat) (r : Re) {i a : Nat} {st : St} (hi : i ≤ a) (has : a ≤ s.size)
    (ha : matchAt u s r a = some st) (hn : ∀ j, i ≤ j → j < a → matchAt u s r j = none) :
    search u s r i = some (a, st) :=
  searchFrom_eq_some u s r has ha _ i hi (by omega) hn

theorem search_eq_none (u : Uni) (s : Array Nat) (r : Re) {i : Nat}
    (hn : ∀ j, i ≤ j → j ≤ s.size → matchAt u s r j = none) : search u s r i = none :=
  searchFrom_eq_none u s r _ i hn

/-- the matches of a `finditer` result as (text, start) pairs -/
def pieces (s : Array Nat) (l : List (Nat × St)) : List (List Nat × Nat) :=
  l.map (fun (a, st) => ((s.toList.drop a).take (st.pos - a), a))

/-- positions chain: each piece starts where the previous one ended -/
def Contig : Nat → List (List Nat × Nat) → Prop
  | _, [] => True
  | p, (w, a) :: rest => a = p ∧ w ≠ [] ∧ Contig (p + w.length) rest

theorem finditer_cover (u : Uni) (s : Array Nat) (r : Re) (hc : Covering u s r)
    (hend : matchAt u s r s.size = none) :
    ((pieces s (finditer u s r)).map (·.1)).flatten = s.toList ∧ Contig 0 (pieces s (finditer u s r)) := by
  have aux : ∀ (fuel i : Nat), i ≤ s.size → fuel ≥ s.size - i + 1 →
      ((pieces s (finditerAux u s r fuel i)).map (·.1)).flatten = s.toList.drop i ∧
      Contig i (pieces s (finditerAux u s r fuel i)) := by
    intro fuel
    induction fuel with
    | zero => intro i hi hf; omega
    | succ f ih =>
      intro i hi hf
      rcases Nat.eq_or_lt_of_le hi with rfl | hlt
      · rw [finditerAux, search_eq_none u s r (fun j h1 h2 => by rw [Nat.le_antisymm h2 h1, hend])]
        simp [pieces, Contig]
      · obtain ⟨st, hm, hgt⟩ := hc i hlt
        have hle := (matchAt_span u s r i st hm).2 hi
        obtain ⟨ih1, ih2⟩ := ih st.pos hle (by omega)
        have hl : ((s.toList.drop i).take (st.pos - i)).length = st.pos - i := by simp; omega
        have hp : i + (st.pos - i) = st.pos := by omega
        rw [finditerAux, search_eq_some u s r (Nat.le_refl i) hi hm (fun j _ _ => by omega)]
        simp only [hgt, if_true, pieces, List.map_cons, List.flatten_cons, Contig, hl, hp] at ih1 ih2 ⊢
        refine ⟨?_, trivial, fun h0 => ?_, ih2⟩
        · rw [ih1, show s.toList.drop st.pos = (s.toList.drop i).drop (st.pos - i) by rw [List.drop_drop, hp]]
          exact List.take_append_drop _ _
        · have := congrArg List.length h0
          rw [hl] at this
          simp at this; omega
  simpa [finditer] using aux (s.size + 1) 0 (Nat.zero_le _) (by omega)

end ChamVerif
