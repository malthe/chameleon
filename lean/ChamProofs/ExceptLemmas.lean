/-! General facts about `Except` and the monadic list operations in it: how `>>=`, `mapM`, `foldlM` and `forM`
succeed or fail.  Core only.  Everything is in `ChamVerif` (so `ChamVerif.Except.bind_eq_ok`, `ChamVerif.mapM_error`). -/
namespace ChamVerif

theorem Except.bind_eq_ok {ε α β} {m : Except ε α} {f : α → Except ε β} {b : β} :
    (m >>= f) = .ok b ↔ ∃ a, m = .ok a ∧ f a = .ok b := by
  cases m <;> simp [bind, Except.bind]

theorem Except.bind_eq_error {ε α β} {m : Except ε α} {f : α → Except ε β} {e : ε} :
    (m >>= f) = .error e ↔ m = .error e ∨ ∃ a, m = .ok a ∧ f a = .error e := by
  cases m <;> simp [bind, Except.bind]

theorem mapM_error {α β ε} (f : α → Except ε β) : ∀ (l : List α) (e : ε), l.mapM f = .error e → ∃ a ∈ l, f a = .error e := by
  intro l
  induction l with
  | nil => intro e h; cases h
  | cons a l ih =>
    intro e h
    rw [List.mapM_cons, Except.bind_eq_error] at h
    rcases h with h | ⟨b, _, h⟩
    · exact ⟨a, List.mem_cons_self, h⟩
    · rw [Except.bind_eq_error] at h
      rcases h with h | ⟨bs, _, h⟩
      · obtain ⟨a', ha', hfa'⟩ := ih e h
        exact ⟨a', List.mem_cons_of_mem _ ha', hfa'⟩
      · cases h

theorem foldlM_error {α β ε} (f : β → α → Except ε β) : ∀ (l : List α) (init : β) (e : ε),
    l.foldlM f init = .error e → ∃ acc, ∃ a ∈ l, f acc a = .error e := by
  intro l
  induction l with
  | nil => intro init e h; cases h
  | cons a l ih =>
    intro init e h
    rw [List.foldlM_cons, Except.bind_eq_error] at h
    rcases h with h | ⟨b, _, h⟩
    · exact ⟨init, a, List.mem_cons_self, h⟩
    · obtain ⟨acc, a', ha', hfa'⟩ := ih b e h
      exact ⟨acc, a', List.mem_cons_of_mem _ ha', hfa'⟩

theorem foldlM_ok_inv {α β ε} (f : β → α → Except ε β) (I : List α → β → Prop) : ∀ (l done : List α) (b r : β),
    (∀ d a b b', a ∈ l → I d b → f b a = .ok b' → I (d ++ [a]) b') → I done b → l.foldlM f b = .ok r →
      I (done ++ l) r := by
  intro l
  induction l with
  | nil => intro done b r _ hi h; cases h; simpa using hi
  | cons a l ih =>
    intro done b r hstep hi h
    rw [List.foldlM_cons, Except.bind_eq_ok] at h
    obtain ⟨b', h1, h2⟩ := h
    have := ih (done ++ [a]) b' r (fun d x b b' hx => hstep d x b b' (List.mem_cons_of_mem _ hx))
      (hstep done a b b' List.mem_cons_self hi h1) h2
    simpa using this

theorem forM_ok_iff {α ε} (f : α → Except ε Unit) (l : List α) :
    l.forM f = .ok () ↔ ∀ a ∈ l, f a = .ok () := by
  induction l with
  | nil => simp [pure, Except.pure]
  | cons a l ih =>
    rw [show (a :: l).forM f = (f a >>= fun _ => l.forM f) from rfl, Except.bind_eq_ok, List.forall_mem_cons, ← ih]
    exact ⟨fun ⟨_, h1, h2⟩ => ⟨h1, h2⟩, fun ⟨h1, h2⟩ => ⟨(), h1, h2⟩⟩

/-! ## the order "succeeds with the same result whenever the other does" and its congruences -/

def OkLe {ε α} (x y : Except ε α) : Prop := ∀ a, x = .ok a → y = .ok a

theorem OkLe.refl {ε α} (x : Except ε α) : OkLe x x := fun _ h => h

theorem OkLe.bind {ε α β} {x y : Except ε α} {f g : α → Except ε β} (h1 : OkLe x y) (h2 : ∀ a, OkLe (f a) (g a)) :
    OkLe (x >>= f) (y >>= g) := by
  intro b h
  obtain ⟨a, ha, hb⟩ := Except.bind_eq_ok.mp h
  exact Except.bind_eq_ok.mpr ⟨a, h1 a ha, h2 a b hb⟩

theorem OkLe.forM {ε α} {f g : α → Except ε Unit} : ∀ (l : List α), (∀ a ∈ l, OkLe (f a) (g a)) → OkLe (l.forM f) (l.forM g)
  | [], _ => OkLe.refl _
  | a :: l, h => OkLe.bind (x := f a) (f := fun _ => l.forM f) (h a List.mem_cons_self)
      (fun _ => OkLe.forM l (fun b hb => h b (List.mem_cons_of_mem _ hb)))

theorem OkLe.foldlM {ε α σ} {f g : σ → α → Except ε σ} : ∀ (l : List α) (s : σ), (∀ s, ∀ a ∈ l, OkLe (f s a) (g s a)) →
    OkLe (l.foldlM f s) (l.foldlM g s)
  | [], _, _ => OkLe.refl _
  | a :: l, s, h => by
    rw [List.foldlM_cons, List.foldlM_cons]
    exact OkLe.bind (h s a List.mem_cons_self) (fun t => OkLe.foldlM l t (fun s b hb => h s b (List.mem_cons_of_mem _ hb)))

theorem option_foldlM_inv {α β : Type} (P : β → Prop) (f : β → α → Option β) :
    ∀ (l : List α) (init r : β), (∀ b a b', a ∈ l → P b → f b a = some b' → P b') → P init →
      l.foldlM f init = some r → P r := by
  intro l
  induction l with
  | nil => intro init r _ hi h; cases h; exact hi
  | cons a l ih =>
    intro init r hstep hi h
    rw [List.foldlM_cons] at h
    obtain ⟨b, hf, h⟩ := Option.bind_eq_some_iff.mp h
    exact ih b r (fun b0 a0 b' ha => hstep b0 a0 b' (List.mem_cons_of_mem _ ha)) (hstep init a b List.mem_cons_self hi hf) h

end ChamVerif
