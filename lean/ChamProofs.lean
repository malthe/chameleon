import ChamProofs.ListLemmas
import ChamProofs.ExceptLemmas
import ChamProofs.RM
import ChamProofs.RunLemmas
import ChamProofs.Steps
import ChamProofs.Inv
import ChamProofs.Fuel
import ChamProofs.Grows
import ChamProofs.Settings
import ChamProofs.Root
import ChamProofs.ReLemmas
import ChamProofs.Ties
import ChamProofs.Props.C01
import ChamProofs.Props.C01Perm
import ChamProofs.Props.C01Sem
import ChamProofs.Props.C01Spec
import ChamProofs.Props.C02
import ChamProofs.Props.C03
import ChamProofs.Props.C03Static
import ChamProofs.Props.C04
import ChamProofs.Props.C04Exists
import ChamProofs.Props.C04Spec
import ChamProofs.Props.C05
import ChamProofs.Props.C05Eval
import ChamProofs.Props.C05Global
import ChamProofs.Props.C05Multi
import ChamProofs.Props.C06
import ChamProofs.Props.C06Loop
import ChamProofs.Props.C06Parts
import ChamProofs.Props.C06Regex
import ChamProofs.Props.C06Text
import ChamProofs.Props.C07
import ChamProofs.Props.C07Once
import ChamProofs.Props.C07Semi
import ChamProofs.Props.C08
import ChamProofs.Props.C08Sep
import ChamProofs.Props.C09
import ChamProofs.Props.C09Name
import ChamProofs.Props.C10
import ChamProofs.Props.C10Dyn
import ChamProofs.Props.C10Offer
import ChamProofs.Props.C10Scope
import ChamProofs.Props.C11
import ChamProofs.Props.C11Clause
import ChamProofs.Props.C11Loc
import ChamProofs.Props.C12
import ChamProofs.Props.C12Loc
import ChamProofs.Props.C13
import ChamProofs.Props.C13Exact
import ChamProofs.Props.C13Loc
import ChamProofs.Props.C14
import ChamProofs.Props.C15
import ChamProofs.Props.C15Load
import ChamProofs.Props.C16
import ChamProofs.Props.C16Fresh
import ChamProofs.Props.C17
import ChamProofs.Props.C18
import ChamProofs.Props.C19
import ChamProofs.Props.C20
import ChamProofs.Props.C20Expr
